/-
C06 — Recurring jobs: exactly one successor per run, on a steady cadence.
-/
import RepidProofs.Proofs.Processor
import RepidProofs.Props.C19

namespace Repid.C06
open Worker Sched

/-- `one_successor`: after a COMPLETED iteration of a recurring job — success, or failure with the
    retries exhausted — the ladder answers with exactly one requeue carrying the rescheduled
    parameters (never an ack/nack, never two calls: C02.exactly_one_terminal). -/
theorem one_successor (p : Params) (success : Bool) (now : Int) (cron : String → Int → Int) (pn : Int)
    (hrec : isRecurring p = true)
    (hdone : success = true ∨ ¬ p.retries.alreadyTried < p.retries.maxAmount) :
    report p success now cron pn = .requeue (p.prepareReschedule now cron) := by
  rw [report_no_retry p success now cron pn hdone, hrec]; rfl

/-- `reset`: the successor has its retry counter reset to zero and its time-to-live clock restarted -/
theorem reset (p : Params) (now : Int) (cron : String → Int → Int) :
    (p.prepareReschedule now cron).retries.alreadyTried = 0 ∧
    (p.prepareReschedule now cron).timestamp = now ∧
    (p.prepareReschedule now cron).retries.maxAmount = p.retries.maxAmount ∧
    (p.prepareReschedule now cron).ttl = p.ttl := by
  simp [Params.prepareReschedule]

/-- `window`: the successor's scheduled time lies strictly in the future and at most one period
    ahead (or equals `deferred_until` while that is still ahead). -/
theorem window (p : Params) (now per : Int) (cron : String → Int → Int)
    (hper : usPerSec ≤ per) (hp : p.delay.deferBy = some per) :
    ∃ t, (p.prepareReschedule now cron).delay.nextExecutionTime = some t ∧ now < t ∧
      (t ≤ now + per ∨ p.delay.delayUntil = some t) :=
  C19.periodic_next_window p now per cron hper hp

/-- the three clauses above through the predicate evaluated on the implementation's requeue calls -/
theorem successorOk_model (p : Params) (now per : Int) (cron : String → Int → Int)
    (hper : usPerSec ≤ per) (hp : p.delay.deferBy = some per) :
    Pred.C06.successorOk now per p.timestamp p.delay.delayUntil (p.prepareReschedule now cron) = true := by
  have := C19.nextOk_model p now per cron hper hp
  simp [Pred.C06.successorOk, Params.prepareReschedule, this]

/-- `first_run_honours_deferred_until`: the first enqueue of a job deferred until `d` (still ahead)
    is filed under `d`. -/
theorem first_run_honours_deferred_until (p : Params) (now d : Int) (cron : String → Int → Int)
    (hn : p.delay.nextExecutionTime = none) (hd : p.delay.delayUntil = some d) (h : d > now) :
    p.waitUntil now cron = some d := by
  simp [Params.waitUntil, hn, C19.deferred_until_first p now d cron hd h]

/-- `spacing_partial`: the next scheduled time is at least one full period after the scheduled time
    `T` of the iteration that just ran — PARTIAL: proved when that iteration completed at least one
    period after the previous completion (`ts + per ≤ now`; `ts` = time base carried by the message,
    `ts < T ≤ ts + per` by `window`). -/
theorem spacing_partial (ts T now per : Int) (hper : 0 < per) (hT : T ≤ ts + per) (hnow : ts + per ≤ now) :
    T + per ≤ nextDefer ts now per := by
  -- at least one whole period has passed since `ts`, so the quotient is ≥ 1 and the result ≥ ts + 2·per
  have hq : 1 ≤ (now - ts) / per := Int.le_ediv_of_mul_le hper (by omega)
  have := Int.mul_le_mul_of_nonneg_left hq (Int.le_of_lt hper)
  rw [nextDefer, Int.mul_add]
  omega

/-- Refutation of the full clause on the current code: period 10 s; an iteration scheduled for
    T = 20.0 s (time base 10.5 s) that completes at 20.1 s gets its successor scheduled for 20.5 s —
    half a second after the slot that just ran instead of a full period. -/
theorem spacing_witness :
    let per := 10000000
    let ts := 10500000         -- previous completion (time base of the message)
    let T := nextDefer 0 ts per              -- = 20.0 s: scheduled time of the iteration that runs now
    let now := T + 100000                    -- it completes at 20.1 s
    T = 20000000 ∧ nextDefer ts now per = 20500000 ∧ ¬ (T + per ≤ nextDefer ts now per) := by
  decide

end Repid.C06
