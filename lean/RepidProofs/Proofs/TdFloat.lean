/-
Round trip of durations through a float number of seconds:
  encode: `timedelta.total_seconds()`            = rn (n / 10^6)            (n = microseconds)
  decode: `timedelta(seconds=float(v))`          = ⌊f⌋·10^6 + nearest (rn ((f − ⌊f⌋) · 10^6))
`rn` is ANY rounding to a representable number with relative error ≤ 2^-53 (IEEE-754 binary64
round-to-nearest satisfies this in the normal range), `nearest` ANY rounding to an integer at
distance ≤ 1/2 (CPython rounds half to even).  For every duration up to 100 years the decoded value
is the original number of microseconds.
-/
import Mathlib.Algebra.Order.Floor.Ring
import Mathlib.Tactic.Linarith
import Mathlib.Data.Rat.Floor

namespace Repid.TdFloat

/-- 100 years in microseconds (100 · 365.25 · 86400 · 10^6) -/
def hundredYearsUs : ℤ := 3155760000000000

/-- `f` is the encoded float, `k` its floor, `r` the rounded product, `m` the nearest integer: the error
    bounds are needed at these points only. -/
theorem roundtrip (n k m : ℤ) (f r : ℚ) (h0 : 0 ≤ n) (hn : n ≤ hundredYearsUs)
    (hf : |f - (n : ℚ) / 10 ^ 6| ≤ |(n : ℚ) / 10 ^ 6| / 2 ^ 53) (hk : (k : ℚ) ≤ f) (hk' : f < k + 1)
    (hr : |r - (f - k) * 10 ^ 6| ≤ |(f - k) * 10 ^ 6| / 2 ^ 53) (hm : |(m : ℚ) - r| ≤ 1 / 2) :
    k * 10 ^ 6 + m = n := by
  have h6 : (0 : ℚ) ≤ 10 ^ 6 := by norm_num
  have h0' : (0 : ℚ) ≤ n := Int.cast_nonneg h0
  have hn' : (n : ℚ) ≤ 3155760000000000 := Int.cast_le.2 hn
  rw [abs_of_nonneg (div_nonneg h0' h6), abs_le] at hf
  rw [abs_of_nonneg (mul_nonneg (sub_nonneg.2 hk) h6), abs_le] at hr
  rw [abs_le] at hm
  -- With the absolute values opened every fact is linear in n, f, k, r, m.  The budget: the error of
  -- `f`, scaled by 10^6, is ≤ n/2^53 ≤ 0.351; that of `r` is < 10^6/2^53; that of `m` is ≤ 1/2.
  have h : |((k * 10 ^ 6 + m - n : ℤ) : ℚ)| < 1 := by
    push_cast; rw [abs_lt]
    constructor
    · linarith only [hf.1, hr.1, hm.1, hk', hn']
    · linarith only [hf.2, hr.2, hm.2, hk', hn']
  exact sub_eq_zero.mp (Int.abs_lt_one_iff.mp (by exact_mod_cast h))

end Repid.TdFloat
