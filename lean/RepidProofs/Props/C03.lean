/-
C03 — Stopping or killing a worker at any moment loses no message (in-memory broker part).

Worker shutdown at the broker level: the processing task of a held message `i` is cancelled at an
arbitrary point — i.e. after `k` atoms of whatever broker call it was making — and then the runner
calls `reject(i)`; finally `consumer.finish()` returns everything still held.
-/
import RepidModel.Pred.C01
import RepidModel.Worker.Shutdown
import RepidProofs.Proofs.MemOps

namespace Repid.C03
open Mem Pred.C01

/-- the state after: cancel the task inside `call` after `k` atoms, then `reject(i)` -/
def cancelThenReject (cron : String → Int → Int) (q : Q) (call : Call) (k : Nat) (i : String) : Q :=
  rejectA (run cron q (call.cancelledAfter k)) i

/-- cancelled BEFORE the broker call did anything (k = 0, or no call in progress at all): the message
    is back in the waiting queue, exactly once, with the parameters it was delivered with
    (retry counter unchanged), and no longer marked in-flight. -/
theorem cancel_before_returns (cron : String → Int → Int) (q : Q) (call : Call) (i : String) (h : Held)
    (hone : (ids q).count i = 1) (hheld : findHeld q i = some h) :
    let q' := cancelThenReject cron q call 0 i
    live i q' = 1 ∧ cntId i q'.simple = 1 ∧ h.msg ∈ q'.simple ∧ cntId i (heldMsgs q') = 0 := by
  have once := dispose_once .simple hone hheld
  show live i (dispose .simple q i) = 1 ∧ cnt i (dispose .simple q i).simple = 1 ∧
    h.msg ∈ (dispose .simple q i).simple ∧ cnt i (heldMsgs (dispose .simple q i)) = 0
  refine ⟨?_, once.2.2.1, ?_, once.1⟩
  · simp only [live, cntId_eq_cnt, once, reduceCtorEq, ↓reduceIte]
  · simp only [dispose_of_held .simple hheld, Q.add, List.mem_append, List.mem_singleton, or_true]

/-- cancelled AFTER a single-atom disposition (ack / nack) took effect: the following `reject` finds
    nothing and changes nothing — the message is disposed exactly once, not also returned. -/
theorem cancel_after_disposed (cron : String → Int → Int) (q : Q) (i : String) (h : Held)
    (hone : (ids q).count i = 1) (hheld : findHeld q i = some h) :
    cancelThenReject cron q (.ack i) 1 i = ackA q i ∧
    cancelThenReject cron q (.nack i) 1 i = nackA q i := by
  show rejectA (ackA q i) i = ackA q i ∧ rejectA (nackA q i) i = nackA q i
  exact ⟨dispose_dispose .acked .simple hone hheld, dispose_dispose .dead .simple hone hheld⟩

/-- `stop_conserves_partial`: for a held message and ANY cancellation point inside an ack or nack
    (k = 0 or 1 atoms applied), after the runner's `reject` the message is in exactly one place —
    returned to the queue or disposed, never both, never neither, never still in-flight.
    PARTIAL: the two-atom `requeue` is excluded (see `requeue_window_witness`). -/
theorem stop_conserves_partial (cron : String → Int → Int) (q : Q) (i : String) (h : Held) (k : Nat)
    (hone : (ids q).count i = 1) (hheld : findHeld q i = some h) (hacked : cntId i q.acked = 0) (hk : k ≤ 1) :
    (∀ call, call = Call.ack i ∨ call = Call.nack i →
      let q' := cancelThenReject cron q call k i
      live i q' + cntId i q'.acked = 1 ∧ cntId i (heldMsgs q') = 0) := by
  intro call hcall
  have fin (d : Dest) (hl : d ≠ .limbo) : live i (dispose d q i) + cnt i (dispose d q i).acked = 1 ∧
      cnt i (heldMsgs (dispose d q i)) = 0 := by
    cases d with
    | limbo => exact absurd rfl hl
    | _ => simp only [live, cntId_eq_cnt, dispose_once _ hone hheld, reduceCtorEq, ↓reduceIte, and_self]
  obtain rfl | rfl := Nat.le_one_iff_eq_zero_or_eq_one.mp hk
  · exact fin .simple nofun
  · have hd := cancel_after_disposed cron q i h hone hheld
    rcases hcall with rfl | rfl
    · exact hd.1 ▸ fin .acked nofun
    · exact hd.2 ▸ fin .dead nofun

/-- Refutation of the full statement on the current code: cancelled between the two halves of a
    `requeue` (retry or reschedule of a failed / recurring job), the message is in no place: the
    following `reject` finds nothing, `finish()` has nothing to return. -/
theorem requeue_window_witness :
    let m : Msg := { id := "m1", topic := "t" }
    let m' : Msg := { id := "m1", topic := "t", params := { retries := { maxAmount := 2, alreadyTried := 1 } } }
    let q0 : Q := { processing := [{ msg := m, who := 0, frm := .normal }] }
    let q1 := cancelThenReject (fun _ n => n) q0 (.requeue m' 0) 1 "m1"
    let q2 := finishA q1 0 q1.processing
    live "m1" q2 = 0 ∧ q2.acked = [] ∧ q2.simple = [] ∧ q2.dead = [] := by
  decide

/-- `finish()` leaves nothing marked in-flight and returns every held message unchanged. -/
theorem finish_returns_all (q : Q) (c : Nat) :
    (finishA q c q.processing).processing = [] ∧
    ∀ h ∈ q.processing, h.msg ∈ (finishA q c q.processing).simple := by
  refine ⟨rfl, fun h hh => ?_⟩
  simp only [finishA, List.mem_append, List.mem_map]
  exact Or.inr ⟨h, hh, rfl⟩

/-- `return_time_bound`: whatever the tasks, consumers and the health server do, run() returns at most
    graceful period + 5 s + 1 s after the stop request (the timers cut every phase). -/
theorem return_time_bound (t : Shutdown.Timers) (p : Shutdown.Phases) :
    Shutdown.returnAfter t p ≤ t.grace + t.consumerFinish + t.healthStop :=
  Int.add_le_add (Int.add_le_add (Int.min_le_right ..) (Int.min_le_right ..)) (Int.min_le_right ..)

end Repid.C03
