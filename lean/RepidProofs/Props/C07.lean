/-
C07 — What the producer enqueued is what the consumer receives.
Models: RepidModel/Codec/{Json,Names,Wire}.lean; float stage: RepidProofs/Proofs/TdFloat.lean.
-/
import RepidModel.Codec.Wire
import RepidProofs.Proofs.TdFloat
import RepidProofs.Proofs.CodecLemmas

namespace Repid.C07
open Codec Codec.Names

theorem optField_enc_dur (fs : List (String × J)) (k : String) (v : Option Int)
    (h : (J.obj fs).get k = some (optJ J.dur v)) : optField (J.obj fs) k asDur = some v := by
  rw [optField_eq_bind, h]
  exact optDec_dur v

theorem optField_enc_time (fs : List (String × J)) (k : String) (v : Option Int)
    (h : (J.obj fs).get k = some (optJ J.time v)) : optField (J.obj fs) k asTime = some v := by
  rw [optField_eq_bind, h]
  exact optDec_time v

theorem optField_enc_str (fs : List (String × J)) (k : String) (v : Option String)
    (h : (J.obj fs).get k = some (optJ J.str v)) : optField (J.obj fs) k asStr = some v := by
  rw [optField_eq_bind, h]
  exact optDec_str v

section
-- Decoding an encoded object: look each key up in the explicit field list, then undo the field's encoder.
attribute [local simp] get_cons optField_eq_bind optDec_dur optDec_time optDec_str
  asInt asStr asDur asTime asBool

theorem retries_roundtrip (r : Retries) : decRetries (encRetries r) = some r := by
  simp [decRetries, encRetries]

theorem result_roundtrip (r : ResultProps) : decResult (encResult r) = some r := by
  simp [decResult, encResult]

theorem delay_roundtrip (d : Delay) : decDelay (encDelay d) = some d := by
  simp [decDelay, encDelay]

theorem optDec_result (o : Option ResultProps) : optDec decResult (optJ encResult o) = some o :=
  optDec_optJ encResult decResult (fun _ => nofun) result_roundtrip o

theorem optField_enc_result (fs : List (String × J)) (v : Option ResultProps)
    (h : (J.obj fs).get "result" = some (optJ encResult v)) :
    optField (J.obj fs) "result" decResult = some v := by
  rw [optField_eq_bind, h]
  exact optDec_result v

/-- `params_roundtrip`: decoding the encoding of ANY parameters gives them back — every field
    (timeout, result settings, retries, delay with all four sub-fields, timestamp, time-to-live),
    every combination of optional settings. -/
theorem params_roundtrip (p : Params) : decParams (encParams p) = some p := by
  simp [decParams, encParams, retries_roundtrip, delay_roundtrip, optDec_result]

theorem args_bucket_roundtrip (b : ArgsBucket) : decArgsBucket (encArgsBucket b) = some b := by
  simp [decArgsBucket, encArgsBucket]

theorem result_bucket_roundtrip (b : ResultBucket) : decResultBucket (encResultBucket b) = some b := by
  simp [decResultBucket, encResultBucket]

/-- an args bucket decoded from an encoded RESULT bucket keeps data / timestamp / ttl and drops the rest -/
theorem args_from_result_bucket (b : ResultBucket) :
    decArgsBucket (encResultBucket b) = some { data := b.data, timestamp := b.timestamp, ttl := b.ttl } := by
  simp [decArgsBucket, encResultBucket]

end

/-- `td_float_roundtrip`: a duration of up to 100 years survives `total_seconds()` →
    `timedelta(seconds=float(·))` at microsecond precision, for EVERY rounding with relative error
    ≤ 2⁻⁵³ and every nearest-integer rounding. -/
theorem td_float_roundtrip (rn rn' : ℚ → ℚ) (nearest : ℚ → ℤ)
    (hrn : ∀ q : ℚ, |rn q - q| ≤ |q| / 2 ^ 53) (hrn' : ∀ q : ℚ, |rn' q - q| ≤ |q| / 2 ^ 53)
    (hnear : ∀ q : ℚ, |(nearest q : ℚ) - q| ≤ 1 / 2)
    (n : ℤ) (h0 : 0 ≤ n) (hmax : n ≤ 3155760000000000) :
    ⌊rn ((n : ℚ) / 10 ^ 6)⌋ * 10 ^ 6
      + nearest (rn' ((rn ((n : ℚ) / 10 ^ 6) - ⌊rn ((n : ℚ) / 10 ^ 6)⌋) * 10 ^ 6)) = n :=
  TdFloat.roundtrip n _ _ _ _ h0 hmax (hrn _) (Int.floor_le _) (Int.lt_floor_add_one _) (hrn' _) (hnear _)

theorem splitColon_ne_nil (s : Str) : splitColon s ≠ [] :=
  splitColon_eq_splitOn s ▸ List.splitOn_ne_nil ':' s

theorem splitColon_noColon (s : Str) (h : noColon s = true) : splitColon s = [s] :=
  (splitColon_eq_splitOn s).trans (List.splitOn_eq_singleton ((noColon_iff s).1 h))

theorem splitColon_append (a rest : Str) (h : noColon a = true) :
    splitColon (a ++ ':' :: rest) = a :: splitColon rest := by
  rw [splitColon_eq_splitOn, splitColon_eq_splitOn,
    List.splitOn_append_cons_self_of_not_mem ((noColon_iff a).1 h)]

/-- `split(":")` undoes the f-string concatenation for components without a colon -/
theorem splitColon_join (parts : List Str) (hne : parts ≠ []) (h : ∀ p ∈ parts, noColon p = true) :
    splitColon (join parts) = parts := by
  rw [splitColon_eq_splitOn, join_eq_intercalate]
  exact List.splitOn_intercalate ':' (fun p hp => (noColon_iff p).1 (h p hp)) hne

def keyOk (k : Key) : Prop :=
  noColon k.id = true ∧ noColon k.topic = true ∧ noColon k.queue = true ∧ noColon k.priority = true

theorem mnc_full (k : Key) : mnc k false = join [['m'], k.queue, k.priority, k.topic, k.id] := rfl
theorem mnc_short (k : Key) : mnc k true = join [k.topic, k.id] := rfl

/-- `redis_names_roundtrip`: the full and the short message name parse back to the key's components;
    the full name is recovered from the short name and the queue name; the queue marker is the
    category tag. -/
theorem redis_names_roundtrip (k : Key) (hk : keyOk k) (delayed dead : Bool) :
    parseFull (mnc k false) = some (k.id, k.topic, k.queue, k.priority) ∧
    parseShort (mnc k true) = some (k.topic, k.id) ∧
    fullFromShort (mnc k true) (qnc k.queue k.priority delayed dead) = some (mnc k false) ∧
    queueMarker (qnc k.queue k.priority delayed dead)
      = some (if dead then "dead".toList else if delayed then ['d'] else ['n']) := by
  obtain ⟨h1, h2, h3, h4⟩ := hk
  have hm : noColon ['m'] = true := rfl
  have hq : noColon ['q'] = true := rfl
  have htag : noColon (if dead then "dead".toList else if delayed then ['d'] else ['n']) = true := by
    rw [String.toList_ofList]; cases dead <;> cases delayed <;> decide
  simp only [qnc, mnc_full, mnc_short, parseFull, parseShort, fullFromShort, queueMarker, join, splitColon_append,
    splitColon_noColon, List.getLast?_cons_cons, List.getLast?_singleton, and_self, *]

/-- `names_unambiguous`: two valid keys with the same message name are the same key -/
theorem names_unambiguous (k k' : Key) (hk : keyOk k) (hk' : keyOk k') (h : mnc k false = mnc k' false) : k = k' := by
  have a := (redis_names_roundtrip k hk false false).1
  rw [h, (redis_names_roundtrip k' hk' false false).1] at a
  cases k; cases k'; simp_all

theorem isPrefix_append (a b : Str) : isPrefix a (a ++ b) = true := by
  rw [isPrefix_eq_isPrefixOf, List.isPrefixOf_iff_prefix]; exact List.prefix_append a b

theorem isPrefix_colon (t t' rest : Str) (ht : noColon t = true) (ht' : noColon t' = true) :
    isPrefix (t ++ [':']) (t' ++ ':' :: rest) = true ↔ t = t' := by
  rw [isPrefix_eq_isPrefixOf, List.isPrefixOf_iff_prefix]
  constructor
  · -- both sides of `t ++ ":" ++ s = t' ++ ":" ++ rest` split at their first colon
    rintro ⟨s, hs⟩
    have := congrArg splitColon hs
    rw [List.append_assoc, List.singleton_append, splitColon_append t _ ht,
      splitColon_append t' _ ht'] at this
    exact (List.cons.inj this).1
  · rintro rfl
    exact ⟨rest, by rw [List.append_assoc]; rfl⟩

/-- the Redis consumer's topic filter (`startswith(topic + ":")`) accepts exactly the messages of that topic -/
theorem topic_prefix_exact (t : Str) (k : Key) (ht : noColon t = true) (hk : keyOk k) :
    topicMatches t (mnc k true) = true ↔ t = k.topic :=
  isPrefix_colon t k.topic k.id ht hk.2.1

/-- `charclass_no_colon`: no character accepted by VALID_NAME / VALID_ID (ranges extracted from the live
    regexes on every run) is a colon -/
theorem charclass_no_colon :
    inRanges Config.nameFirst ':' = false ∧ inRanges Config.nameRest ':' = false ∧
    inRanges Config.idFirst ':' = false ∧ inRanges Config.idRest ':' = false := by
  decide

theorem inRanges_ne_colon (rs : List (Nat × Nat)) (hrs : inRanges rs ':' = false) (c : Char)
    (h : inRanges rs c = true) : c ≠ ':' := by
  intro hc; subst hc; rw [hrs] at h; cases h

theorem nameOk_noColon (s : Str) (h : nameOk s = true) : noColon s = true := by
  cases s with
  | nil => cases h
  | cons c rest => exact noColon_of_tests charclass_no_colon.1 charclass_no_colon.2.1 h

theorem idOk_noColon (s : Str) (h : idOk s = true) : noColon s = true := by
  cases s with
  | nil => cases h
  | cons c rest => exact noColon_of_tests charclass_no_colon.2.2.1 charclass_no_colon.2.2.2 h

/-- every key the validators accept is a key the Redis encodings handle unambiguously -/
theorem validated_key_ok (k : Key) (hid : idOk k.id = true) (ht : nameOk k.topic = true)
    (hq : nameOk k.queue = true) (hp : k.priority.all Char.isDigit = true) : keyOk k :=
  ⟨idOk_noColon _ hid, nameOk_noColon _ ht, nameOk_noColon _ hq, noColon_of_all (by decide) hp⟩

theorem marker_check (id : Str) : markerCheck (markerConstruct id) = true := by
  have e : markerConstruct id
      = "{\"".toList ++ (bucketKey ++ ("\":\"".toList ++ id ++ "\"}".toList)) := by
    simp only [markerConstruct, List.append_assoc]
  rw [e]
  exact findFrom_append 3 (by rw [String.toList_ofList]; decide) (isPrefix_append _ _)

theorem marker_deconstruct (id : Str) : markerDeconstruct (markerConstruct id) = some id := by
  have e : markerConstruct id = ("{\"".toList ++ bucketKey ++ "\":\"".toList) ++ (id ++ "\"}".toList) :=
    List.append_assoc _ id _
  have hl : (id ++ "\"}".toList).length = id.length + 2 := List.length_append
  simp only [markerDeconstruct, e, isPrefix_append, if_true, List.drop_left, hl, Nat.add_sub_cancel,
    List.take_left, Nat.le_add_left, and_self]

/-- Redis: what a consumer scanning the message's queue and priority rebuilds is what was enqueued -/
theorem redis_end_to_end (m : Message) (hk : keyOk m.key) (delayed : Bool) :
    redisConsume (redisEnqueue m delayed) m.key.queue m.key.priority delayed = some m := by
  have hn := (redis_names_roundtrip m.key hk delayed false).2.1
  simp only [redisConsume, redisEnqueue, hn, params_roundtrip]
  cases m with
  | mk key payload params => simp

/-- RabbitMQ: id, topic, queue, priority (every priority incl. 0 — after the `fix:` for F14),
    payload and parameters come back -/
theorem rabbit_end_to_end (m : Message) (prio : Nat) (digits : Nat → Str) (hp : m.key.priority = digits prio)
    (delayed : Bool) : rabbitConsume (rabbitEnqueue m prio delayed) digits = some m := by
  simp only [rabbitConsume, rabbitEnqueue, params_roundtrip]
  cases m with
  | mk key payload params => cases key; simp_all

end Repid.C07
