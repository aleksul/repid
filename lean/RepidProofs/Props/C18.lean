/-
C18 — dependencies resolve to exactly what their providers return.
Model: RepidModel/Deps/Resolve.lean (+ Conv.call for "an accepted declaration can be called",
Worker.process for "a provider failure is a failed execution").
-/
import RepidModel.Deps.Resolve
import RepidModel.Worker.Processor
import RepidProofs.Proofs.ConvCall
import RepidProofs.Props.C02

namespace Repid.C18
open Deps

/-! ### SPEC: what a dependency parameter must receive (written as a relation, without fuel) -/

mutual
/-- `Denotes e r v`: `v` is the value of reference `r` — the message dependency itself, or what the current
    provider of the `Depends` object returns when called with the values of its own sub-dependencies -/
inductive Denotes (e : Env) : Ref → Val → Prop
  | msg : Denotes e .msg .msg
  | prov (k : Nat) (p : Provider) (kw : List (String × Val)) :
      e.get k = some p → p.fails = false → DenotesAll e p.refs (subNames p.sig) kw →
      Denotes e (.prov k) (.app p.fn kw)
inductive DenotesAll (e : Env) : List (String × Ref) → List String → List (String × Val) → Prop
  | nil (refs : List (String × Ref)) : DenotesAll e refs [] []
  | cons (refs : List (String × Ref)) (n : String) (r : Ref) (v : Val) (rest : List String)
      (vs : List (String × Val)) :
      refOf refs n = some r → Denotes e r v → DenotesAll e refs rest vs →
      DenotesAll e refs (n :: rest) ((n, v) :: vs)
end

theorem resolveList_sound {e : Env} {f : Ref → Except Err Val} (hf : ∀ r v, f r = .ok v → Denotes e r v)
    {refs : List (String × Ref)} {ns : List String} {vs : List (String × Val)}
    (h : resolveList f refs ns = .ok vs) : DenotesAll e refs ns vs := by
  fun_induction resolveList generalizing vs with
  | case1 => cases h; exact .nil refs
  | case5 n rest r hr v hv vs' hvs ih => cases h; exact .cons refs n r v rest vs' hr (hf r v hv) (ih hvs)
  | _ => cases h

theorem resolveList_ne {f : Ref → Except Err Val} {refs : List (String × Ref)} {err : Err} {ns : List String}
    (herr : err ≠ .unknown) (hf : ∀ n ∈ ns, ∀ r, refOf refs n = some r → f r ≠ .error err) :
    resolveList f refs ns ≠ .error err := by
  -- a failure of the list: a name without reference (`.unknown`), the failure of a member, or of a later one
  fun_induction resolveList with
  | case2 => exact fun h => herr (Except.error.inj h).symm
  | case3 n rest r hr err' hv => rintro ⟨⟩; exact hf n List.mem_cons_self r hr hv
  | case4 n rest r hr v hv err' hvs ih => rintro ⟨⟩; exact ih (fun n' hn' => hf n' (List.mem_cons_of_mem _ hn')) hvs
  | _ => nofun

/-- every actor dependency parameter: the value the actor receives is the specified one -/
theorem actor_receives_spec (e : Env) (fuel : Nat) (r : Ref) (v : Val) (h : resolve e fuel r = .ok v) :
    Denotes e r v := by
  -- `resolve` hands itself, with one fuel less, to `resolveList`: the hypothesis is wanted for that function
  induction fuel using Nat.strongRecOn generalizing r v with | _ fuel ih => ?_
  revert h
  -- of the six ways `resolve` can end, two yield a value
  fun_cases resolve with
  | case1 => rintro ⟨⟩; exact .msg
  | case6 fuel k p hp kw hkw hf =>
    rintro ⟨⟩
    exact .prov k p kw hp (Bool.eq_false_iff.mpr hf) (resolveList_sound (ih fuel fuel.lt_succ_self) hkw)
  | _ => exact nofun

/-- `resolve_sound`: whatever the resolver returns is the specified value — for EVERY environment (graph shape,
    depth, fan-out, sharing), every fuel. -/
theorem resolve_sound (e : Env) : ∀ (fuel : Nat),
    (∀ r v, resolve e fuel r = .ok v → Denotes e r v) ∧
    (∀ refs ns vs, resolveAll e fuel refs ns = .ok vs → DenotesAll e refs ns vs) :=
  fun fuel => ⟨actor_receives_spec e fuel, fun _ _ _ => resolveList_sound (actor_receives_spec e fuel)⟩

theorem resolve_ne_fuel {e : Env} {rank : Nat → Nat} (hac : Acyclic e rank) {fuel : Nat} {r : Ref}
    (hr : ∀ k, r = .prov k → rank k < fuel) : resolve e fuel r ≠ .error .fuel := by
  induction fuel using Nat.strongRecOn generalizing r with | _ fuel ih => ?_
  -- `.fuel` comes from an empty budget or from below
  fun_cases resolve with
  | case2 k => exact fun _ => Nat.not_lt_zero _ (hr k rfl)
  | case4 fuel k p hp err hkw =>
    rintro ⟨⟩
    refine resolveList_ne (err := .fuel) nofun (fun n _ r hn => ih fuel fuel.lt_succ_self fun j hj => ?_) hkw
    have := hac k p hp n j (hj ▸ hn); have := hr k rfl; omega
  | _ => exact nofun

/-- `resolve_terminates`: on an acyclic environment (any rank function witnessing it) resolution with fuel above the
    rank never runs out of budget — the recursion of `Depends.resolve` ends, at any depth and fan-out. -/
theorem resolve_terminates (e : Env) (rank : Nat → Nat) (hac : Acyclic e rank) : ∀ (fuel : Nat),
    (∀ r, (∀ k, r = .prov k → rank k < fuel) → resolve e fuel r ≠ .error .fuel) ∧
    (∀ refs ns, (∀ n j, n ∈ ns → refOf refs n = some (.prov j) → rank j < fuel) →
        resolveAll e fuel refs ns ≠ .error .fuel) :=
  fun _ => ⟨fun _ => resolve_ne_fuel hac, fun _ _ hb =>
    resolveList_ne nofun fun n hn _ hr => resolve_ne_fuel hac fun j hj => hb n j hn (hj ▸ hr)⟩

/-! ### overrides, failures: every provider used is a CURRENT, non-failing provider of the environment -/

mutual
theorem denotes_fns (e : Env) : ∀ (r : Ref) (v : Val), Denotes e r v →
    ∀ f ∈ v.fns, ∃ k p, e.get k = some p ∧ p.fn = f ∧ p.fails = false
  | _, _, .msg => fun _ hf => nomatch hf
  | _, _, .prov k p kw hp hnf hkw => fun f hf =>
    (List.mem_cons.mp hf).elim (fun h => ⟨k, p, hp, h.symm, hnf⟩) (denotesAll_fns e _ _ _ hkw f)
theorem denotesAll_fns (e : Env) : ∀ (refs : List (String × Ref)) (ns : List String) (vs : List (String × Val)),
    DenotesAll e refs ns vs → ∀ f ∈ fnsAll vs, ∃ k p, e.get k = some p ∧ p.fn = f ∧ p.fails = false
  | _, _, _, .nil _ => fun _ hf => nomatch hf
  | _, _, _, .cons refs n r v rest vs _ hd hrest => fun f hf =>
    (List.mem_append.mp hf).elim (denotes_fns e r v hd f) (denotesAll_fns e refs rest vs hrest f)
end

/-- `used_providers_current`: every provider function called while resolving is the current provider of some
    `Depends` object of the environment, and did not fail -/
theorem used_providers_current (e : Env) (fuel : Nat) (r : Ref) (v : Val) (h : resolve e fuel r = .ok v) :
    ∀ f ∈ v.fns, ∃ k p, e.get k = some p ∧ p.fn = f ∧ p.fails = false :=
  denotes_fns e r v (actor_receives_spec e fuel r v h)

theorem get_override (e : Env) (k j : Nat) (p : Provider) :
    (e.override k p).get j = if j = k then (e.get k).map (fun _ => p) else e.get j := by
  have hcomp : ((fun x : Nat × Provider => x.1 == j) ∘ fun x => if x.1 == k then (k, p) else x)
      = fun x => x.1 == j := by
    funext x
    by_cases hx : x.1 = k <;> simp [hx]
  have hkey (x) (hx : e.find? (·.1 == j) = some x) : x.1 = j := by simpa using List.find?_some hx
  simp only [Env.override, Env.get, List.find?_map, hcomp, Option.map_map]
  by_cases hj : j = k
  · subst hj; rw [if_pos rfl]
    exact Option.map_congr fun x hx => by simp [hkey x hx]
  · rw [if_neg hj]
    exact Option.map_congr fun x hx => by simp [hkey x hx, hj]

/-- `twin_markers_independent`: two `Depends` objects are two markers even when they were created over one and the same
    provider function — overriding one leaves what the other resolves to untouched (markers have identity, not value
    semantics) -/
theorem twin_markers_independent (e : Env) (k j : Nat) (p : Provider) (hjk : j ≠ k) :
    (e.override k p).get j = e.get j :=
  (get_override e k j p).trans (if_neg hjk)

/-- `override_everywhere`: after `Depends k` is overridden, no resolution — of any actor parameter, at any depth,
    through any number of shared uses — calls the replaced function again (provided no other Depends object holds
    the same function) -/
theorem override_everywhere (e : Env) (k : Nat) (pNew : Provider) (old : Nat)
    (hnew : pNew.fn ≠ old) (hothers : ∀ j p, j ≠ k → e.get j = some p → p.fn ≠ old)
    (fuel : Nat) (r : Ref) (v : Val) (h : resolve (e.override k pNew) fuel r = .ok v) : old ∉ v.fns := by
  intro hmem
  obtain ⟨j, p, hget, hfn, -⟩ := used_providers_current _ fuel r v h old hmem
  rw [get_override] at hget
  by_cases hj : j = k
  · rw [if_pos hj, Option.map_eq_some_iff] at hget
    obtain ⟨-, -, rfl⟩ := hget
    exact hnew hfn
  · rw [if_neg hj] at hget
    exact hothers j p hj hget hfn

/-- a failing provider anywhere below a parameter fails the resolution (it never yields a value) -/
theorem failing_provider_no_value (e : Env) (fuel k : Nat) (p : Provider) (hp : e.get k = some p)
    (hf : p.fails = true) : ∀ v, resolve e fuel (.prov k) ≠ .ok v := by
  intro v h
  cases actor_receives_spec e fuel _ v h with
  | prov _ p' kw hp' hnf _ => cases hp.symm.trans hp'; cases hf.symm.trans hnf

/-- a failed resolution is a failed execution that was not entered, and it is disposed of by the retry rules:
    requeue with a retry while retries remain, else reschedule if recurring, else nack — never ack -/
theorem provider_failure_follows_retry_rules (p : Params) (now : Int) (cron : String → Int → Int) (pn : Int)
    (hb sf : Bool) :
    (Worker.process p now cron pn hb sf .depFail).calls = [Worker.disposition p false now cron pn] ∧
    (Worker.process p now cron pn hb sf .depFail).bodyRan = false :=
  ⟨C02.non_eager_disposition p now cron pn hb sf .depFail nofun,
   (C02.body_not_run_on_conv_dep_failure p now cron pn hb sf).2⟩

theorem declOk_iff (s : Conv.Sig) : declOk s = true ↔
    (∀ p ∈ s.posOnly, p.isDep = false ∧ p.hasDefault = true) ∧
    (∀ p ∈ s.posOrKw ++ s.kwOnly, p.isDep = true ∨ p.hasDefault = true) ∧ s.varPos = false ∧ s.varKw = false := by
  simp only [declOk, Bool.and_eq_true, List.all_eq_true, Bool.not_eq_true', Bool.or_eq_true, and_assoc]

theorem posonly_dependency_rejected (s : Conv.Sig) (p : Conv.P) (hp : p ∈ s.posOnly) (hd : p.isDep = true) :
    declOk s = false :=
  Bool.eq_false_iff.mpr fun h => Bool.noConfusion (hd.symm.trans (((declOk_iff s).mp h).1 p hp).1)

theorem dep_or_default {s : Conv.Sig} (h : declOk s = true) {p : Conv.P} (hp : p ∈ s.named) :
    p.isDep = true ∨ p.hasDefault = true := by
  obtain ⟨h1, h2, -⟩ := (declOk_iff s).mp h
  rw [Conv.Sig.named, List.append_assoc, List.mem_append] at hp
  exact hp.elim (fun hp => .inr (h1 p hp).2) (h2 p)

theorem plain_without_default_rejected (s : Conv.Sig) (p : Conv.P) (hp : p ∈ s.named)
    (hd : p.isDep = false) (hdef : p.hasDefault = false) : declOk s = false := by
  refine Bool.eq_false_iff.mpr fun h => ?_
  have := dep_or_default h hp
  rw [hd, hdef] at this
  exact this.elim Bool.noConfusion Bool.noConfusion

theorem var_args_rejected (s : Conv.Sig) (h : s.varPos = true ∨ s.varKw = true) : declOk s = false := by
  refine Bool.eq_false_iff.mpr fun hh => ?_
  obtain ⟨-, -, h1, h2⟩ := (declOk_iff s).mp hh
  rw [h1, h2] at h
  exact h.elim Bool.noConfusion Bool.noConfusion

theorem mapNamed_ok (g : Conv.P → Except Conv.Err Conv.V) (f : Conv.P → Conv.V) (l : List Conv.P)
    (h : ∀ p ∈ l, g p = .ok (f p)) : Conv.mapNamed g l = .ok (l.map fun p => (p.name, f p)) :=
  Conv.mapNamed_eq_ok.2 ⟨f, h, rfl⟩

/-- the value a provider parameter is bound to -/
def boundValue (p : Conv.P) : Conv.V := if p.isDep then .dep p.name else .dflt p.name

/-- `accepted_declaration_callable`: a declaration that `_update_subdependencies` accepts is never rejected at run
    time — calling the provider with its resolved sub-dependencies as keyword arguments binds, by CPython's rules,
    every dependency parameter to its resolved value and every other parameter to its default. -/
theorem accepted_declaration_callable (s : Conv.Sig) (hok : declOk s = true)
    (hnd : (s.named.map (·.name)).Nodup) :
    callProvider s = .ok { named := s.named.map (fun p => (p.name, boundValue p)), star := [], dstar := [] } := by
  obtain ⟨hpo, -⟩ := (declOk_iff s).mp hok
  have wf : Conv.WF s := ⟨hnd, List.all_eq_true.mpr fun p hp => by rw [(hpo p hp).1]; rfl⟩
  -- no positional-only parameter is a dependency, so the provider is called with the dependency kwargs of C08
  have hck : callKwargs s = Conv.depKwargs s := by
    have hno : s.posOnly.filter (·.isDep) = [] :=
      List.filter_eq_nil_iff.mpr fun p hp => by rw [(hpo p hp).1]; exact Bool.false_ne_true
    rw [callKwargs, subNames, Conv.depKwargs, Conv.Sig.named, List.append_assoc, List.filter_append s.posOnly, hno,
      List.map_map]
    rfl
  rw [callProvider, hck, Conv.call_depKwargs wf,
    mapNamed_ok _ boundValue _ fun p hp => Conv.specValue_nil (dep_or_default hok hp)]

/-! ### non-vacuity -/

/-- a diamond: actor parameter → provider 1 → providers 2 and 3, both → shared provider 4 → message dependency.
    The shared provider is called once per use (nothing is cached). -/
def diamond : Env :=
  [(1, { fn := 10, sig := { posOrKw := [{ name := "a", isDep := true }, { name := "b", isDep := true }] },
         refs := [("a", .prov 2), ("b", .prov 3)] }),
   (2, { fn := 20, sig := { posOrKw := [{ name := "s", isDep := true }] }, refs := [("s", .prov 4)] }),
   (3, { fn := 30, sig := { kwOnly := [{ name := "s", isDep := true }, { name := "opt", hasDefault := true }] },
         refs := [("s", .prov 4)] }),
   (4, { fn := 40, sig := { posOrKw := [{ name := "m", isDep := true }] }, refs := [("m", .msg)] })]

example : (match resolve diamond 5 (.prov 1) with | .ok v => v.fns | .error _ => []) = [10, 20, 40, 30, 40] := by
  decide +kernel
example : (match resolve (diamond.override 4 { fn := 41, sig := {}, refs := [] }) 5 (.prov 1) with
    | .ok v => v.fns | .error _ => []) = [10, 20, 41, 30, 41] := by decide +kernel
example : declOk (diamond.get 3).get!.sig = true := by decide

example : let twins : Env := [(1, { fn := 10, sig := {}, refs := [] }), (2, { fn := 10, sig := {}, refs := [] })]
    (match resolve (twins.override 1 { fn := 99, sig := {}, refs := [] }) 3 (.prov 2) with | .ok v => v.fns | .error _ => []) = [10] ∧
    (match resolve (twins.override 1 { fn := 99, sig := {}, refs := [] }) 3 (.prov 1) with | .ok v => v.fns | .error _ => []) = [99] := by
  decide +kernel

end Repid.C18
