/-
What the proofs about `_Runner` (C09, C10) use of `Runner.step` and `Runner.run`.
-/
import RepidModel.Worker.Runner

namespace Repid.Runner

theorem afterDone_eq (x : R) : afterDone x =
    { x with processed := x.processed + 1,
             stop := x.stop || maxTasksHit { x with processed := x.processed + 1 } } := by
  fun_cases afterDone <;> simp [*]

/-- An event moves slot counters; `done` then runs the done-callback.  Nothing else in `step` writes
    `limit`, `maxTasks`, `stop` or `processed`. -/
theorem step_frame (r : R) (e : Ev) : ∃ x, (step r e = x ∨ step r e = afterDone x) ∧
    x.limit = r.limit ∧ x.maxTasks = r.maxTasks ∧ x.stop = r.stop ∧ x.processed = r.processed := by
  fun_cases step
  -- `done` is cases 13–15 of `step`; 14 and 15 release the slot, to a waiter or to the semaphore
  case case14 | case15 => exact ⟨_, .inr rfl, rfl, rfl, rfl, rfl⟩
  all_goals exact ⟨_, .inl rfl, rfl, rfl, rfl, rfl⟩

theorem step_limit (r : R) (e : Ev) : (step r e).limit = r.limit := by
  obtain ⟨x, h | h, hl, -⟩ := step_frame r e <;> simpa only [h, afterDone_eq] using hl

theorem run_induction {P : R → Prop} (hstep : ∀ r e, P r → P (step r e)) (evs : List Ev) :
    ∀ r, P r → P (run r evs) :=
  fun _ h => List.foldlRecOn evs step h fun r hr e _ => hstep r e hr

theorem run_limit (r : R) (evs : List Ev) : (run r evs).limit = r.limit :=
  run_induction (P := fun x => x.limit = r.limit) (fun x e h => (step_limit x e).trans h) evs r rfl

end Repid.Runner
