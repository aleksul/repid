/-
JSON trees: every field of a decoder is `(j.get k).bind dec`, an optional one with `dec = optDec f`
(`optField_eq_bind`), so decoding an encoded object is a key lookup in an explicit list (`get_cons`; the keys
are string literals, `String.reduceEq` decides them) followed by `dec (enc v) = some v`, for an optional field
by `optDec_optJ`.
Names: the model's `split(":")`, f-string concatenation and prefix test are core's `List.splitOn`, `List.intercalate`
and `List.isPrefixOf`, so that C07's facts about them are core's.
-/
import RepidModel.Codec.Wire

namespace Repid.Codec

theorem get_cons (k k' : String) (v : J) (fs : List (String × J)) :
    (J.obj ((k', v) :: fs)).get k = if k' = k then some v else (J.obj fs).get k := by
  by_cases h : k' = k <;> simp [J.get, h]

/-- what `optField` does with the value it finds: the decoder that undoes `optJ` -/
def optDec {α : Type} (f : J → Option α) : J → Option (Option α)
  | .null => some none
  | v => (f v).map some

theorem optField_eq_bind {α : Type} (j : J) (k : String) (f : J → Option α) :
    optField j k f = (j.get k).bind (optDec f) := by
  unfold optField optDec
  cases j.get k with
  | none => rfl
  | some v => cases v <;> rfl

theorem optDec_optJ {α : Type} (enc : α → J) (dec : J → Option α) (hn : ∀ a, enc a ≠ .null)
    (hd : ∀ a, dec (enc a) = some a) (o : Option α) : optDec dec (optJ enc o) = some o := by
  cases o with
  | none => rfl
  | some a =>
    have := hn a
    simp only [optJ]
    unfold optDec
    split
    · contradiction
    · rw [hd]; rfl

theorem optDec_dur (o : Option Int) : optDec asDur (optJ J.dur o) = some o :=
  optDec_optJ J.dur asDur (fun _ => nofun) (fun _ => rfl) o

theorem optDec_time (o : Option Int) : optDec asTime (optJ J.time o) = some o :=
  optDec_optJ J.time asTime (fun _ => nofun) (fun _ => rfl) o

theorem optDec_str (o : Option String) : optDec asStr (optJ J.str o) = some o :=
  optDec_optJ J.str asStr (fun _ => nofun) (fun _ => rfl) o

namespace Names

theorem isPrefix_eq_isPrefixOf : ∀ a b : Str, isPrefix a b = a.isPrefixOf b
  | [], _ => rfl
  | _ :: _, [] => rfl
  | c :: a, d :: b => congrArg (c == d && ·) (isPrefix_eq_isPrefixOf a b)

theorem findFrom_append {needle pre s : Str} (n : Nat) (h : pre.length ≤ n)
    (hs : isPrefix needle s = true) : findFrom needle n (pre ++ s) = true := by
  induction pre generalizing n with
  | nil => cases n <;> simp [findFrom, hs]
  | cons c pre ih =>
    obtain _ | n := n
    · cases h
    · simp [findFrom, ih n (Nat.le_of_succ_le_succ h)]

theorem noColon_iff (s : Str) : noColon s = true ↔ ':' ∉ s := by
  rw [noColon, List.all_eq_true]
  exact ⟨fun h hc => bne_iff_ne.1 (h _ hc) rfl, fun h c hc => bne_iff_ne.2 fun e => h (e ▸ hc)⟩

theorem splitColon_eq_splitOn : ∀ s : Str, splitColon s = s.splitOn ':'
  | [] => rfl
  | c :: rest => by
    have hne := List.splitOn_ne_nil ':' rest
    rw [splitColon, List.splitOn_cons_eq_if_modifyHead, splitColon_eq_splitOn rest]
    cases h : List.splitOn ':' rest with
    | nil => exact absurd h hne
    | cons hd tl => simp only [beq_iff_eq, List.modifyHead_cons]

theorem join_eq_intercalate : ∀ parts : List Str, join parts = [':'].intercalate parts
  | [] => rfl
  | [p] => List.intercalate_singleton.symm
  | p :: q :: rs => by
    rw [List.intercalate_cons_cons, ← join_eq_intercalate (q :: rs), List.append_assoc]; rfl

theorem noColon_of_all {p : Char → Bool} (hp : p ':' = false) {s : Str} (h : s.all p = true) :
    noColon s = true := by
  rw [noColon_iff]
  intro hc
  rw [List.all_eq_true.1 h _ hc] at hp; cases hp

theorem noColon_of_tests {p q : Char → Bool} (hp : p ':' = false) (hq : q ':' = false) {c : Char}
    {s : Str} (h : (p c && s.all q) = true) : noColon (c :: s) = true := by
  rw [Bool.and_eq_true] at h
  rw [noColon_iff, List.mem_cons, not_or]
  refine ⟨?_, (noColon_iff s).1 (noColon_of_all hq h.2)⟩
  rintro rfl
  rw [hp] at h; cases h.1

end Names
end Repid.Codec
