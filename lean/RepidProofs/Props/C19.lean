/-
C19 — Schedule arithmetic is well-behaved for all inputs.
Model: RepidModel/Sched.lean.
-/
import RepidModel.Sched
import RepidModel.Pred.C19

namespace Repid.C19
open Sched

/-- The default back-off stays within `[min_backoff, max_backoff]` for every retry number. -/
theorem backoff_bounds (minB maxB mult maxExp n : Nat) (h : minB ≤ maxB) :
    minB ≤ backoff minB maxB mult maxExp n ∧ backoff minB maxB mult maxExp n ≤ maxB :=
  ⟨Nat.le_max_left .., Nat.max_le.mpr ⟨h, Nat.min_le_right ..⟩⟩

/-- Monotonically non-decreasing in the retry number. -/
theorem backoff_mono (minB maxB mult maxExp : Nat) {n m : Nat} (h : n ≤ m) :
    backoff minB maxB mult maxExp n ≤ backoff minB maxB mult maxExp m := by
  -- every layer of `backoff` is monotone: capping the exponent, the power, the product, the clamp to [minB, maxB]
  have hexp : min n maxExp ≤ min m maxExp := Nat.le_min.mpr ⟨Nat.le_trans (Nat.min_le_left ..) h, Nat.min_le_right ..⟩
  have hraw := Nat.mul_le_mul_left mult (Nat.pow_le_pow_right (by decide : 0 < 2) hexp)
  exact Nat.max_le.mpr ⟨Nat.le_max_left .., Nat.le_trans
    (Nat.le_min.mpr ⟨Nat.le_trans (Nat.min_le_left ..) hraw, Nat.min_le_right ..⟩) (Nat.le_max_right ..)⟩

/-- "Never overflows": with `max_backoff ≤ 10^9 s` the value handed to `timedelta(seconds=…)` is
    at most `10^9`, far below `timedelta.max` (86 399 999 999 999 s). -/
theorem backoff_no_overflow (minB maxB mult maxExp n : Nat) (h : minB ≤ maxB)
    (hmax : maxB ≤ 1000000000) :
    backoff minB maxB mult maxExp n ≤ 1000000000 ∧
    backoff minB maxB mult maxExp n < 86399999999999 := by
  have := Nat.le_trans (backoff_bounds minB maxB mult maxExp n h).2 hmax
  exact ⟨this, Nat.lt_of_le_of_lt this (by decide)⟩

/-- `now < next ≤ now + period` for every time base, current time and positive period. -/
theorem next_window (ts now p : Int) (hp : 0 < p) :
    now < nextDefer ts now p ∧ nextDefer ts now p ≤ now + p := by
  unfold nextDefer
  have h1 := Int.emod_add_mul_ediv (now - ts) p
  have h2 := Int.emod_nonneg (now - ts) (Int.ne_of_gt hp)
  have h3 := Int.emod_lt_of_pos (now - ts) hp
  rw [Int.mul_add, Int.mul_one]
  omega

/-- The result is a whole number of periods after the time base. -/
theorem next_grid (ts now p : Int) : ∃ k : Int, nextDefer ts now p = ts + k * p :=
  ⟨(now - ts) / p + 1, by rw [nextDefer, Int.mul_comm]⟩

/-- …and that whole number is at least one whenever `now` is not before the time base. -/
theorem next_grid_pos (ts now p : Int) (hp : 0 < p) (h : ts ≤ now) :
    ∃ k : Int, 1 ≤ k ∧ nextDefer ts now p = ts + k * p :=
  ⟨(now - ts) / p + 1, Int.le_add_of_nonneg_left (Int.ediv_nonneg (Int.sub_nonneg.mpr h) (Int.le_of_lt hp)),
   by rw [nextDefer, Int.mul_comm]⟩

/-- `compute_next_execution_time` equals `deferred_until` while that is still ahead. -/
theorem deferred_until_first (p : Params) (now d : Int) (cron : String → Int → Int)
    (hd : p.delay.delayUntil = some d) (h : d > now) : p.computeNext now cron = some d := by
  simp [Params.computeNext, hd, h]

/-- Otherwise a periodic job gets the grid value (to which `next_window`/`next_grid` apply). -/
theorem periodic_next (p : Params) (now per : Int) (cron : String → Int → Int)
    (hd : ∀ d, p.delay.delayUntil = some d → d ≤ now) (hp : p.delay.deferBy = some per) :
    p.computeNext now cron = some (nextDefer p.timestamp now per) := by
  fun_cases Params.computeNext
  case case1 d hdu h => exact absurd h (Int.not_lt.mpr (hd d hdu))
  all_goals rw [Params.computeNext.rest, hp]

-- The hypotheses of `deferred_until_first` and `periodic_next` cover a periodic job between them.
theorem ahead_or_not (du : Option Int) (now : Int) :
    (∃ d, du = some d ∧ d > now) ∨ ∀ d, du = some d → d ≤ now := by
  by_cases h : ∃ d, du = some d ∧ d > now
  · exact .inl h
  · exact .inr fun d hd => Int.not_lt.mp fun hlt => h ⟨d, hd, hlt⟩

theorem periodic_next_window_of_pos (p : Params) (now per : Int) (cron : String → Int → Int)
    (hpos : 0 < per) (hp : p.delay.deferBy = some per) :
    ∃ t, p.computeNext now cron = some t ∧ now < t ∧
      (t ≤ now + per ∨ p.delay.delayUntil = some t) := by
  obtain ⟨d, hd, h⟩ | hd := ahead_or_not p.delay.delayUntil now
  · exact ⟨d, deferred_until_first p now d cron hd h, h, .inr hd⟩
  · have hw := next_window p.timestamp now per hpos
    exact ⟨_, periodic_next p now per cron hd hp, hw.1, .inl hw.2⟩

/-- Combined statement of the property's second sentence for periodic jobs with period ≥ 1 s. -/
theorem periodic_next_window (p : Params) (now per : Int) (cron : String → Int → Int)
    (hper : usPerSec ≤ per) (hp : p.delay.deferBy = some per) :
    ∃ t, p.computeNext now cron = some t ∧ now < t ∧
      (t ≤ now + per ∨ p.delay.delayUntil = some t) :=
  periodic_next_window_of_pos p now per cron (Int.lt_of_lt_of_le (by decide) hper) hp

/-- Expiry is decided by `now > timestamp + ttl`; no ttl never expires. -/
theorem overdue_def (now ts : Int) (ttl : Int) : overdue now ts (some ttl) = true ↔ now > ts + ttl := by
  simp [overdue]

theorem overdue_none (now ts : Int) : overdue now ts none = false := rfl

/-- Exactly at expiry is *not* overdue; one microsecond later is. -/
theorem overdue_boundary (ts : Int) (ttl : Int) :
    overdue (ts + ttl) ts (some ttl) = false ∧ overdue (ts + ttl + 1) ts (some ttl) = true := by
  simp [overdue]; omega

-- Non-vacuity: concrete instances of the hypotheses.
example : backoff 10 86400 5 15 1 = 10 ∧ backoff 10 86400 5 15 3 = 40 ∧ backoff 10 86400 5 15 99 = 86400 := by
  decide
example : nextDefer 0 25000000 10000000 = 30000000 ∧ nextDefer 0 30000000 10000000 = 40000000 := by
  decide

/-! ### The same statements through the decidable predicates the driver evaluates on
    implementation values (`RepidModel/Pred/C19.lean`). -/
open Pred.C19

theorem backoffOk_model (minB maxB mult maxExp n : Nat) (h : minB ≤ maxB) (hmax : maxB ≤ 1000000000) :
    backoffOk minB maxB (backoff minB maxB mult maxExp n) = true := by
  have h1 := backoff_bounds minB maxB mult maxExp n h
  have h2 := backoff_no_overflow minB maxB mult maxExp n h hmax
  simp [backoffOk, h1.1, h1.2, h2.2]

theorem monoOk_model (minB maxB mult maxExp n : Nat) :
    monoOk (backoff minB maxB mult maxExp n) (backoff minB maxB mult maxExp (n + 1)) = true :=
  decide_eq_true (backoff_mono minB maxB mult maxExp (Nat.le_succ n))

theorem nextOk_of_pos (p : Params) (now per : Int) (cron : String → Int → Int)
    (hpos : 0 < per) (hp : p.delay.deferBy = some per) :
    nextOk p.timestamp now per p.delay.delayUntil (p.computeNext now cron) = true := by
  obtain ⟨d, hd, h⟩ | hd := ahead_or_not p.delay.delayUntil now
  · rw [deferred_until_first p now d cron hd h, hd]
    exact (if_pos h).trans (beq_self_eq_true d)
  · have hw := next_window p.timestamp now per hpos
    have hgrid : (windowOk now per (nextDefer p.timestamp now per) &&
        gridOk p.timestamp per (nextDefer p.timestamp now per)) = true := by
      have hg : (nextDefer p.timestamp now per - p.timestamp) % per = 0 := by
        rw [nextDefer, Int.add_comm, Int.add_sub_cancel, Int.mul_emod_right]
      rw [windowOk, gridOk, decide_eq_true hw.1, decide_eq_true hw.2, hg]; rfl
    rw [periodic_next p now per cron hd hp]
    cases hdu : p.delay.delayUntil with
    | none => exact hgrid
    | some d => exact (if_neg (Int.not_lt.mpr (hd d hdu))).trans hgrid

theorem nextOk_model (p : Params) (now per : Int) (cron : String → Int → Int)
    (hper : usPerSec ≤ per) (hp : p.delay.deferBy = some per) :
    nextOk p.timestamp now per p.delay.delayUntil (p.computeNext now cron) = true :=
  nextOk_of_pos p now per cron (Int.lt_of_lt_of_le (by decide) hper) hp

theorem overdueOk_model (now ts : Int) (ttl : Option Int) :
    overdueOk now ts ttl (overdue now ts ttl) = true := by
  cases ttl <;> simp [overdueOk, overdue]

end Repid.C19
