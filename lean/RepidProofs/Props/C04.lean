/-
C04 — Retries are bounded, counted and backed off as configured.
Model: `Worker.retryChain` (RepidModel/Worker/Chain.lean) driven by the ladder `Worker.report`;
predicate: `Pred.C04.chainOk` (also evaluated on chains observed from the implementation).
-/
import RepidProofs.Proofs.Processor

namespace Repid.C04
open Worker Pred.C04

variable (policy : Int → Int) (cron : String → Int → Int) (fails : Nat → Bool) (dur lat : Nat → Int)

/-- the execution the chain records for the delivery of `p` at `start` as its k-th execution -/
def execOf (k : Nat) (p : Params) (start : Int) : Exec :=
  { start := start, params := p,
    call := report p (!fails k) (start + dur k) cron (policy (p.retries.alreadyTried + 1)),
    fin := start + dur k, failed := fails k }

theorem chain_unfold (fuel k : Nat) (p : Params) (start : Int) :
    retryChain policy cron fails dur lat (fuel + 1) k p start =
      if fails k = true ∧ p.retries.alreadyTried < p.retries.maxAmount then
        execOf policy cron fails dur k p start ::
          retryChain policy cron fails dur lat fuel (k + 1)
            (p.prepareRetry (start + dur k) (policy (p.retries.alreadyTried + 1)))
            (start + dur k + policy (p.retries.alreadyTried + 1) + lat (k + 1))
      else [execOf policy cron fails dur k p start] := by
  simp only [retryChain, execOf, Bool.and_eq_true, decide_eq_true_eq]

/-- the retry branch of the ladder is taken exactly when the execution failed and retries remain;
    otherwise the answer is ack, nack or a reschedule -/
theorem retry_iff (p : Params) (success : Bool) (now : Int) (pn : Int) :
    (report p success now cron pn = .requeue (p.prepareRetry now pn) ∧ success = false ∧
        p.retries.alreadyTried < p.retries.maxAmount) ∨
    ((success = true ∨ ¬ p.retries.alreadyTried < p.retries.maxAmount) ∧
      (report p success now cron pn = .ack ∨ report p success now cron pn = .nack ∨
       report p success now cron pn = .requeue (p.prepareReschedule now cron))) := by
  by_cases h : success = false ∧ p.retries.alreadyTried < p.retries.maxAmount
  · exact .inl ⟨h.1 ▸ report_retry p now cron pn h.2, h⟩
  · have h' : success = true ∨ ¬ p.retries.alreadyTried < p.retries.maxAmount := by
      cases success <;> simp_all
    rw [report_no_retry p success now cron pn h']
    exact .inr ⟨h', by cases isRecurring p <;> cases success <;> simp⟩

/-- `counter_step`: a retry increases the attempt counter carried by the message by exactly one,
    keeps the budget, and schedules the next attempt at failure time + back-off. -/
theorem counter_step (p : Params) (now d : Int) :
    (p.prepareRetry now d).retries.alreadyTried = p.retries.alreadyTried + 1 ∧
    (p.prepareRetry now d).retries.maxAmount = p.retries.maxAmount ∧
    (p.prepareRetry now d).delay.nextExecutionTime = some (now + d) ∧
    isRecurring (p.prepareRetry now d) = isRecurring p := by
  simp [Params.prepareRetry, isRecurring]

@[simp] theorem tried_prepareRetry (p : Params) (now d : Int) :
    (p.prepareRetry now d).retries.alreadyTried = p.retries.alreadyTried + 1 := rfl
@[simp] theorem max_prepareRetry (p : Params) (now d : Int) :
    (p.prepareRetry now d).retries.maxAmount = p.retries.maxAmount := rfl

/-- shape: a non-empty chain starts with the execution of the delivered message -/
theorem chain_head (fuel k : Nat) (p : Params) (start : Int) :
    ∃ tail, retryChain policy cron fails dur lat (fuel + 1) k p start =
      execOf policy cron fails dur k p start :: tail := by
  rw [chain_unfold]; split
  · exact ⟨_, rfl⟩
  · exact ⟨[], rfl⟩

def toObs (e : Exec) : Obs :=
  { tried := e.params.retries.alreadyTried, start := e.start, fin := e.fin, failed := e.failed }

-- Induction along the chain is functional induction on `retryChain`: `case1` the spent fuel;
-- `case2` a failed execution with retries left (`h`) followed by the chain of the retried message
-- `p'`; `case3` the execution that ends the chain.  `fin`, `pn`, `b`, `p'` are the `let`s of the
-- definition (`simp only [p']` opens one); `case … =>` names the last of the case's variables.
theorem counters_ok (fuel : Nat) : ∀ (k : Nat) (p : Params) (start : Int),
    countersOk p.retries.alreadyTried ((retryChain policy cron fails dur lat fuel k p start).map toObs) = true := by
  intro k p start
  fun_induction retryChain
  case case1 => rfl
  case case2 p' ih => simpa [countersOk, toObs, p'] using ih
  case case3 => simp [countersOk, toObs]

theorem only_last_may_succeed (fuel : Nat) : ∀ (k : Nat) (p : Params) (start : Int),
    onlyLastMaySucceed ((retryChain policy cron fails dur lat fuel k p start).map toObs) = true := by
  intro k p start
  fun_induction retryChain
  case case1 | case3 => rfl
  case case2 h _ ih =>
    simp only [Bool.and_eq_true] at h
    generalize retryChain .. = tail at ih ⊢
    cases tail with
    | nil => rfl
    | cons y ys => simpa [onlyLastMaySucceed, toObs, h.1] using ih

theorem backoff_ok (hlat : ∀ k, 0 ≤ lat k) (fuel : Nat) : ∀ (k : Nat) (p : Params) (start : Int),
    backoffOk policy ((retryChain policy cron fails dur lat fuel k p start).map toObs) = true := by
  intro k p start
  fun_induction retryChain
  case case1 | case3 => rfl
  case case2 fuel k _ _ fin pn _ _ p' ih =>
    cases fuel with
    | zero => rfl
    | succ fuel =>
      obtain ⟨tail, ht⟩ := chain_head policy cron fails dur lat fuel (k + 1) p' (fin + pn + lat (k + 1))
      have := hlat (k + 1)
      simp only [ht, List.map_cons, backoffOk, Bool.and_eq_true, decide_eq_true_eq] at ih ⊢
      exact ⟨by simp only [toObs, execOf]; omega, ih⟩

theorem length_le (fuel : Nat) : ∀ (k : Nat) (p : Params) (start : Int),
    p.retries.alreadyTried ≤ p.retries.maxAmount →
    ((retryChain policy cron fails dur lat fuel k p start).length : Int)
      ≤ p.retries.maxAmount - p.retries.alreadyTried + 1 := by
  intro k p start
  fun_induction retryChain
  case case1 => simp only [List.length_nil]; omega
  case case2 h p' ih =>
    simp only [Bool.and_eq_true, decide_eq_true_eq] at h
    have := ih (Int.add_one_le_of_lt h.2)
    simp only [p', tried_prepareRetry, max_prepareRetry, List.length_cons] at this ⊢
    omega
  case case3 => simp only [List.length_singleton]; omega

/-- final place implied by the broker call that ends the chain -/
def finalOf (recurring : Bool) : BCall → Final
  | .ack => .acked
  | .nack => .dead
  | .requeue _ => if recurring then .rescheduled else .other
  | .reject => .other

/-- the last execution of the chain: if it failed the budget is spent (exactly N+1 executions) and
    the message is dead-lettered (rescheduled if recurring); if it succeeded it is acked
    (rescheduled if recurring) -/
theorem last_ok (fuel : Nat) : ∀ (k : Nat) (p : Params) (start : Int),
    p.retries.alreadyTried ≤ p.retries.maxAmount →
    (p.retries.maxAmount - p.retries.alreadyTried + 1 ≤ (fuel : Int)) →
    ∃ e, (retryChain policy cron fails dur lat fuel k p start).getLast? = some e ∧
      (e.failed = true →
        ((retryChain policy cron fails dur lat fuel k p start).length : Int)
            = p.retries.maxAmount - p.retries.alreadyTried + 1 ∧
        finalOf (isRecurring p) e.call = (if isRecurring p then .rescheduled else .dead)) ∧
      (e.failed = false →
        finalOf (isRecurring p) e.call = (if isRecurring p then .rescheduled else .acked)) := by
  intro k p start
  fun_induction retryChain
  case case1 => omega
  case case2 h p' ih =>
    simp only [Bool.and_eq_true, decide_eq_true_eq] at h
    simp only [p', tried_prepareRetry, max_prepareRetry, (counter_step ..).2.2.2] at ih ⊢
    intro _ _
    obtain ⟨e, he, h1, h2⟩ := ih (by omega) (by omega)
    refine ⟨e, by rw [List.getLast?_cons, he]; rfl, fun hfail => ⟨?_, (h1 hfail).2⟩, h2⟩
    have := (h1 hfail).1
    simp only [List.length_cons]; omega
  case case3 k p _ _ _ b hc =>
    -- the ladder did not answer with a retry (`report_no_retry`)
    simp only [Bool.and_eq_true, decide_eq_true_eq] at hc
    intro _ _
    refine ⟨_, List.getLast?_singleton, fun (hfail : fails k = true) => ?_, fun (hok : fails k = false) => ?_⟩
    · have hlt : ¬ p.retries.alreadyTried < p.retries.maxAmount := fun hl => hc ⟨hfail, hl⟩
      refine ⟨by simp only [List.length_singleton]; omega, ?_⟩
      simp only [b, hfail, report_no_retry p (!true) _ _ _ (.inr hlt)]
      cases isRecurring p <;> rfl
    · simp only [b, hok, report_no_retry p (!false) _ _ _ (.inl rfl)]
      cases isRecurring p <;> rfl

/-- **C04, full statement**: for every N ≥ 0, every failure pattern over the attempts, every retry
    policy, every duration profile and every non-negative delivery latency, recurring or not — the
    chain of executions of one scheduling of a job with retries = N satisfies `chainOk`:
    counters 0,1,2,…; every execution but the last failed; at most N+1 executions; exactly N+1 and
    dead-lettered (rescheduled if recurring) when all failed; a success ends the chain with an ack
    (reschedule if recurring); the k-th retry starts no earlier than the failure plus policy(k). -/
theorem chain_ok (p : Params) (start : Int) (fuel : Nat)
    (h0 : p.retries.alreadyTried = 0) (hN : 0 ≤ p.retries.maxAmount)
    (hfuel : p.retries.maxAmount + 1 ≤ (fuel : Int)) (hlat : ∀ k, 0 ≤ lat k) :
    ∃ e, (retryChain policy cron fails dur lat fuel 0 p start).getLast? = some e ∧
      chainOk p.retries.maxAmount (isRecurring p) policy
        ((retryChain policy cron fails dur lat fuel 0 p start).map toObs)
        (finalOf (isRecurring p) e.call) = true := by
  obtain ⟨e, he, h1, h2⟩ := last_ok policy cron fails dur lat fuel 0 p start (by omega) (by omega)
  refine ⟨e, he, ?_⟩
  have hc := h0 ▸ counters_ok policy cron fails dur lat fuel 0 p start
  have hl := length_le policy cron fails dur lat fuel 0 p start (by omega)
  simp only [chainOk, hc, only_last_may_succeed, backoff_ok policy cron fails dur lat hlat, Bool.true_and,
    Bool.and_eq_true, decide_eq_true_eq, List.length_map, List.getLast?_map, he, Option.map_some]
  refine ⟨by omega, ?_⟩
  cases hf : e.failed with
  | true =>
    obtain ⟨hlen, hfin⟩ := h1 hf
    simp only [toObs, hf, if_true, Bool.and_eq_true, decide_eq_true_eq, hfin]
    exact ⟨by omega, by cases isRecurring p <;> rfl⟩
  | false =>
    simp only [toObs, hf, h2 hf]
    cases isRecurring p <;> rfl

theorem all_failed (hf : ∀ j, fails j = true) (fuel k : Nat) (p : Params) (start : Int) :
    ∀ e ∈ retryChain policy cron fails dur lat fuel k p start, e.failed = true := by
  fun_induction retryChain
  case case1 => exact fun _ h => nomatch h
  case case2 ih => exact List.forall_mem_cons.mpr ⟨hf _, ih⟩
  case case3 => exact List.forall_mem_singleton.mpr (hf _)

/-- `chain_length` (corollary): an always-failing job with retries = N is executed exactly N+1 times -/
theorem chain_length (p : Params) (start : Int) (fuel : Nat)
    (h0 : p.retries.alreadyTried = 0) (hN : 0 ≤ p.retries.maxAmount)
    (hfuel : p.retries.maxAmount + 1 ≤ (fuel : Int)) :
    ((retryChain policy cron (fun _ => true) dur lat fuel 0 p start).length : Int) = p.retries.maxAmount + 1 := by
  obtain ⟨e, he, h1, _⟩ := last_ok policy cron (fun _ => true) dur lat fuel 0 p start (by omega) (by omega)
  have := (h1 (all_failed policy cron _ dur lat (fun _ => rfl) fuel 0 p start e (List.mem_of_getLast? he))).1
  omega

/-- `counter_bounded`: without a forced retry the attempt counter never exceeds the budget -/
theorem counter_bounded (fuel : Nat) : ∀ (k : Nat) (p : Params) (start : Int),
    p.retries.alreadyTried ≤ p.retries.maxAmount →
    ∀ e ∈ retryChain policy cron fails dur lat fuel k p start,
      e.params.retries.alreadyTried ≤ e.params.retries.maxAmount ∧
      e.params.retries.maxAmount = p.retries.maxAmount := by
  intro k p start
  fun_induction retryChain
  case case1 => exact fun _ _ h => nomatch h
  case case2 h _ ih =>
    simp only [Bool.and_eq_true, decide_eq_true_eq] at h
    exact fun hle => List.forall_mem_cons.mpr ⟨⟨hle, rfl⟩, ih (Int.add_one_le_of_lt h.2)⟩
  case case3 => exact fun hle => List.forall_mem_singleton.mpr ⟨hle, rfl⟩

/-- `success_ends`: a success at any attempt ends the chain — with an ack for a one-shot job -/
theorem success_ends (fuel k : Nat) (p : Params) (start : Int) (hs : fails k = false)
    (hnr : isRecurring p = false) :
    (retryChain policy cron fails dur lat (fuel + 1) k p start).map (·.call) = [.ack] := by
  rw [chain_unfold]
  simp [hs, execOf, report, hnr]

-- Non-vacuity: N = 2, always failing, linear policy.
example :
    let p : Params := { retries := { maxAmount := 2, alreadyTried := 0 } }
    (retryChain (fun k => 10000000 * k) (fun _ n => n) (fun _ => true) (fun _ => 1) (fun _ => 0) 5 0 p 0).map
      (fun e => (e.start, e.params.retries.alreadyTried)) = [(0, 0), (10000001, 1), (30000002, 2)] := by
  decide

end Repid.C04
