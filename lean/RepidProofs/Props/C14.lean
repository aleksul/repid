/-
C14 — A message is held by at most one consumer at a time (in-memory broker).

Ghost `believes : List (consumer × id)`: a pair is added when `consume()` hands the id to the
consumer and removed when the holder disposes of it (ack / nack / reject / requeue) or when that
consumer itself finishes.  `finish()` of ANOTHER consumer does not remove it — the code, however,
returns every held message of the queue to the waiting list (`while processing: put(pop())`).
-/
import RepidModel.Pred.Broker
import RepidProofs.Proofs.MemOps

namespace Repid.C14
open Mem Pred.C14

/-- invariant: ids occur at most once overall; at most one believer per id; every belief is backed
    by a processing entry of that consumer -/
def Inv (q : Q) : Prop :=
  (∀ i, total i q ≤ 1) ∧
  (q.believes.map (·.2)).Nodup ∧
  (∀ b ∈ q.believes, ∃ h ∈ q.processing, h.who = b.1 ∧ h.msg.id = b.2)

/-- hypotheses on one step: ids brought in from outside are fresh (distinct message ids), and —
    PARTIAL — a consumer only finishes while every held message of the queue is its own. -/
def StepOk (q : Q) (op : Op) : Prop :=
  (∀ i ∈ introduces q op, total i q = 0) ∧
  (match op with
   | .finish c _ => ∀ h ∈ q.processing, h.who = c
   | _ => True)

theorem poll_keeps (q : Q) (cat : Cat) (now : Int) (topics : List String) :
    (poll q cat now topics).2.processing = q.processing ∧
    (poll q cat now topics).2.believes = q.believes := by
  obtain ⟨s, d, dd, h⟩ := poll_frame q cat now topics
  rw [h]; exact ⟨rfl, rfl⟩

theorem nodup_filter_snd (l : List (Nat × String)) (p : Nat × String → Bool)
    (h : (l.map (·.2)).Nodup) : ((l.filter p).map (·.2)).Nodup :=
  List.Nodup.sublist (List.Sublist.map _ List.filter_sublist) h

/-- beliefs about ids other than the disposed one stay backed after the entry is dropped -/
theorem backed_after_drop (q : Q) (i : String) (b : Nat × String)
    (hb : ∃ h ∈ q.processing, h.who = b.1 ∧ h.msg.id = b.2) (hne : b.2 ≠ i) :
    ∃ h ∈ dropHeld q i, h.who = b.1 ∧ h.msg.id = b.2 := by
  obtain ⟨h, hm, hw, hid⟩ := hb
  refine ⟨h, ?_, hw, hid⟩
  unfold dropHeld
  exact (List.mem_eraseP_of_neg (by simp [hid, hne])).mpr hm

theorem inv_dispose (q : Q) (i : String) (q' : Q) (hinv : Inv q)
    (htot : ∀ j, total j q' = total j q)
    (hproc : q'.processing = dropHeld q i) (hbel : q'.believes = q.believes.filter (·.2 != i)) :
    Inv q' := by
  refine ⟨fun j => by rw [htot]; exact hinv.1 j, ?_, ?_⟩
  · rw [hbel]; exact nodup_filter_snd _ _ hinv.2.1
  · intro b hb
    rw [hbel] at hb
    have hb' := List.mem_filter.mp hb
    rw [hproc]
    exact backed_after_drop q i b (hinv.2.2 b hb'.1) (by simpa using hb'.2)

theorem introduces_count_le (q : Q) (op : Op) (i : String) : (introduces q op).count i ≤ 1 := by
  refine Nat.le_trans List.count_le_length ?_
  fun_cases introduces <;> simp

theorem inv_step (cron : String → Int → Int) (q : Q) (op : Op) (hinv : Inv q) (hok : StepOk q op) :
    Inv (step cron q op) := by
  -- ids stay unique: an atom adds to the count of an id what it `introduces`, and that is fresh
  refine ⟨fun i => ?_, ?_⟩
  · rw [total_step]
    by_cases hi : i ∈ introduces q op
    · rw [hok.1 i hi, Nat.zero_add]
      exact introduces_count_le q op i
    · rw [List.count_eq_zero.mpr hi]; exact hinv.1 i
  -- the other two conjuncts speak of `believes` and `processing` only
  have disposed (d : Dest) (i : String) : Inv (dispose d q i) := by
    cases hf : findHeld q i with
    | none => rwa [dispose_of_not_held d hf]
    | some h =>
      exact inv_dispose q i _ hinv (fun j => total_dispose j d q i) (dispose_processing d hf)
        (dispose_believes d hf)
  cases op with
  | put m now | reput m now =>
    obtain ⟨s, d, h⟩ := put_frame q m now cron
    simp only [step, reputA_eq, h]
    exact hinv.2
  | update now => exact hinv.2
  | ack i => exact (disposed .acked i).2
  | nack i => exact (disposed .dead i).2
  | reject i => exact (disposed .simple i).2
  | unhold i => exact (disposed .limbo i).2
  | finish c perm =>
    by_cases hp : perm.isPerm q.processing = true
    · simp only [step, hp, if_true]
      refine ⟨nodup_filter_snd _ _ hinv.2.1, fun b hb => ?_⟩
      -- no belief survives: it would be another consumer's, backed by a held message, and all of those are `c`'s
      have hb' := List.mem_filter.mp hb
      obtain ⟨h, hm, hw, _⟩ := hinv.2.2 b hb'.1
      exact absurd (hw.symm.trans (hok.2 h hm)) (bne_iff_ne.mp hb'.2)
    · simp only [step, hp]; exact hinv.2
  | poll c cat now topics =>
    have hk := poll_keeps q cat now topics
    simp only [step, pollTake_eq]
    cases hr : (poll q cat now topics).1 with
    | none => simp only [hk]; exact hinv.2
    | some m =>
      -- ids are unique, so the polled one was not held, so nobody believed to hold it
      have hfresh := not_believed hinv.2.2 (polled_not_held (hinv.1 m.id) hr)
      simp only [hk]
      refine ⟨?_, List.forall_mem_append.mpr ⟨fun b hb => ?_, List.forall_mem_singleton.mpr
        ⟨_, List.mem_append_right _ (List.mem_singleton_self _), rfl, rfl⟩⟩⟩
      · rw [List.map_append]
        refine List.nodup_append.mpr ⟨hinv.2.1, List.pairwise_singleton .., fun a ha b hb hab => ?_⟩
        obtain ⟨⟨c', j⟩, hc, rfl⟩ := List.mem_map.mp ha
        obtain rfl : j = m.id := hab.trans (List.mem_singleton.mp hb)
        exact hfresh c' hc
      · obtain ⟨h, hm, hw⟩ := hinv.2.2 b hb
        exact ⟨h, List.mem_append_left _ hm, hw⟩

def StepsOk (cron : String → Int → Int) : Q → List Op → Prop
  | _, [] => True
  | q, op :: rest => StepOk q op ∧ StepsOk cron (step cron q op) rest

theorem inv_run (cron : String → Int → Int) (ops : List Op) (q : Q) (hinv : Inv q)
    (hok : StepsOk cron q ops) : Inv (run cron q ops) := by
  induction ops generalizing q with
  | nil => exact hinv
  | cons op rest ih => exact ih _ (inv_step cron q op hinv hok.1) hok.2

theorem singleHolder_of_nodup (l : List (Nat × String)) (h : (l.map (·.2)).Nodup) :
    singleHolder l = true := by
  simp only [singleHolder, List.all_eq_true, decide_eq_true_eq]
  intro b _
  have : (l.filter (·.2 == b.2)).length = (l.map (·.2)).count b.2 := by
    rw [List.count_eq_length_filter, List.filter_map, List.length_map]; rfl
  rw [this]
  exact List.nodup_iff_count.mp h b.2

/-- `mem_single_holder_partial`: for EVERY history of atoms (any number of consumers, any
    interleaving of their polls and terminal actions, any clock) whose steps satisfy `StepOk`,
    at most one consumer believes it holds each message.  PARTIAL: `StepOk` excludes a consumer's
    `finish()` while another consumer of the same queue holds a message. -/
theorem mem_single_holder_partial (cron : String → Int → Int) (ops : List Op)
    (hok : StepsOk cron {} ops) : singleHolder (run cron {} ops).believes = true := by
  have h0 : Inv ({} : Q) := ⟨fun _ => Nat.zero_le 1, List.nodup_nil, nofun⟩
  exact singleHolder_of_nodup _ (inv_run cron ops {} h0 hok).2.1

/-- Refutation of the full statement on the current code: consumers 0 and 1 hold m1 and m2;
    consumer 0 finishes — both messages go back to the waiting list; consumer 2 is then handed m2
    while consumer 1 still holds it. -/
theorem mem_finish_steals_witness :
    let m1 : Msg := { id := "m1", topic := "t" }
    let m2 : Msg := { id := "m2", topic := "t" }
    let cron : String → Int → Int := fun _ n => n
    let q := run cron {} [.put m1 0, .put m2 0, .poll 0 .normal 0 [], .poll 1 .normal 0 []]
    let q' := run cron q [.finish 0 q.processing, .poll 2 .normal 0 [], .poll 2 .normal 0 []]
    singleHolder q.believes = true ∧ singleHolder q'.believes = false ∧
    (1, "m2") ∈ q'.believes ∧ (2, "m2") ∈ q'.believes := by
  decide

/-- `success_once` (corollary at the broker level): while a consumer believes it holds `i`, no
    other consumer can be handed `i` — so with a succeeding actor the job runs exactly once. -/
theorem success_once (cron : String → Int → Int) (q : Q) (c c' : Nat) (cat : Cat) (now : Int)
    (topics : List String) (m : Msg) (hinv : Inv q) (hbel : (c, m.id) ∈ q.believes)
    (hpoll : (pollTake q c' cat now topics).1 = some m) : False := by
  rw [pollTake_eq] at hpoll
  exact not_believed hinv.2.2 (polled_not_held (hinv.1 m.id) hpoll) c hbel

end Repid.C14
