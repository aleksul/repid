/-
C02 — Every delivery ends in exactly one, correct disposition.
Model: RepidModel/Worker/Processor.lean (`actorRun`, `report`, `process`; spec `disposition`).
-/
import RepidProofs.Proofs.Processor

namespace Repid.C02
open Worker

/-- The ladder of `report_to_broker` implements the disposition table of the statement:
    ack on success, retry-requeue on failure while retries remain, nack on failure with none left,
    reschedule instead of ack/nack for recurring jobs — for every retry budget and attempt count. -/
theorem report_eq_disposition (p : Params) (success : Bool) (now : Int) (cron : String → Int → Int)
    (pn : Int) : report p success now cron pn = disposition p success now cron pn := by
  unfold report disposition
  cases success <;> cases h1 : decide (p.retries.alreadyTried < p.retries.maxAmount) <;>
    cases h2 : isRecurring p <;> simp_all

/-- what `actor_run` reports about broker calls made inside the actor: one call iff the actor
    answered eagerly and the answer was accepted; none otherwise -/
theorem actorRun_calls (p : Params) (now : Int) (cron : String → Int → Int) (pn : Int)
    (hb sf : Bool) (o : Outcome) :
    ((actorRun p now cron pn hb sf o).reportingDone = true →
        (actorRun p now cron pn hb sf o).calls.length = 1) ∧
    ((actorRun p now cron pn hb sf o).reportingDone = false →
        (actorRun p now cron pn hb sf o).calls = []) := by
  fun_cases actorRun <;> simp

/-- `exactly_one_terminal`: whatever the actor does — return, raise, time out, fail argument
    conversion or dependency resolution, or answer eagerly (any of the six responses, accepted or
    refused, with any set_result / set_exception / add_callback prefix, callbacks and result store
    raising or not) — for EVERY retry budget, attempt count, recurrence and result setting, exactly
    one broker call is made for the message. -/
theorem exactly_one_terminal (p : Params) (now : Int) (cron : String → Int → Int) (pn : Int)
    (hb sf : Bool) (o : Outcome) :
    (process p now cron pn hb sf o).calls.length = 1 := by
  have h := actorRun_calls p now cron pn hb sf o
  simp only [process_eq]
  cases hr : (actorRun p now cron pn hb sf o).reportingDone with
  | true => simp [h.1 hr]
  | false => simp [h.2 hr]

/-- for the five non-eager outcomes the single call is the disposition of the table -/
theorem non_eager_disposition (p : Params) (now : Int) (cron : String → Int → Int) (pn : Int)
    (hb sf : Bool) (o : Outcome) (ho : ∀ pre a, o ≠ .eager pre a) :
    (process p now cron pn hb sf o).calls =
      [disposition p (decide (o = .ret)) now cron pn] := by
  obtain ⟨br, h⟩ := actorRun_nonEager p now cron pn hb sf o ho
  simp [process_eq, h, report_eq_disposition]

/-- `nothing_after_eager`: once the actor has answered eagerly (reporting done), `process` makes no
    further broker call: the calls are exactly those made inside the actor. -/
theorem nothing_after_eager (p : Params) (now : Int) (cron : String → Int → Int) (pn : Int)
    (hb sf : Bool) (o : Outcome) (h : (actorRun p now cron pn hb sf o).reportingDone = true) :
    (process p now cron pn hb sf o).calls = (actorRun p now cron pn hb sf o).calls := by
  simp [process_eq, h]

/-- the actor body never runs when argument conversion or dependency resolution fails -/
theorem body_not_run_on_conv_dep_failure (p : Params) (now : Int) (cron : String → Int → Int) (pn : Int)
    (hb sf : Bool) :
    (process p now cron pn hb sf .convFail).bodyRan = false ∧
    (process p now cron pn hb sf .depFail).bodyRan = false := by
  constructor <;> rw [process_eq] <;> rfl

/-- Regression statement for the defect repaired by the `fix:` commit (F8): an eager `ack` with a
    result set, when the result store raises, is NOT followed by a second broker action. -/
theorem eager_callback_failure_fixed :
    let p : Params := { result := some { id := "r", ttl := none }, retries := { maxAmount := 2, alreadyTried := 0 } }
    (process p 0 (fun _ n => n) 5000000 true true (.eager [.setResult] .ack)).calls = [.ack] := by
  decide

/-- all registered callbacks run even when one of them raises -/
theorem callbacks_all_run (cbs : List Cb) (sf : Bool) : (runCallbacks cbs sf).1 = cbs := rfl

end Repid.C02
