/-
C05 (in-memory): the "already due" invariant and its preservation by every atom.
-/
import RepidProofs.Proofs.MemStep

namespace Repid.Mem
open List

/-- every waiting message that had a due time is past it at `now`, and so is every message held out
    of the *normal* category (`reject` and `finish` put held messages back among the waiting ones);
    every entry of the delayed dict is filed under its due time (so that `updateDelayed` moves only
    what is due) -/
def EarlyInv (now : Int) (q : Q) : Prop :=
  (∀ m ∈ q.simple, ∀ d, m.due = some d → d < now) ∧
  (∀ h ∈ q.processing, h.frm = .normal → ∀ d, h.msg.due = some d → d < now) ∧
  (∀ e ∈ q.delayed, ∀ m ∈ e.2, m.due = some e.1)

theorem EarlyInv.mono {t t' : Int} {q : Q} (h : EarlyInv t q) (ht : t ≤ t') : EarlyInv t' q :=
  ⟨fun m hm d hd => Int.lt_of_lt_of_le (h.1 m hm d hd) ht,
   fun x hx hf d hd => Int.lt_of_lt_of_le (h.2.1 x hx hf d hd) ht, h.2.2⟩

theorem EarlyInv.empty (t : Int) : EarlyInv t {} :=
  ⟨fun _ h => (nomatch h), fun _ h => (nomatch h), fun _ h => (nomatch h)⟩

/-- the clock value an atom reads, if any -/
def opNow : Op → Option Int
  | .put _ now => some now
  | .reput _ now => some now
  | .update now => some now
  | .poll _ _ now _ => some now
  | _ => none

/-- hypothesis of `C05.mem_never_early_partial`: messages are only ever *returned* (reject / consumer finish)
    out of a normal-category hold -/
def okReturn (q : Q) : Op → Prop
  | .reject i => ∀ h, findHeld q i = some h → h.frm = .normal
  | .finish _ _ => ∀ h ∈ q.processing, h.frm = .normal
  | _ => True

theorem early_put (cron) (t now : Int) (q : Q) (m : Msg) (ht : t ≤ now) (h : EarlyInv t q) :
    EarlyInv now (put q m now cron) := by
  have h' := h.mono ht
  fun_cases put
  · exact ⟨h'.1, h'.2.1, dictAppend_all (P := fun k x => x.due = some k) rfl h'.2.2⟩
  · exact ⟨forall_mem_append.mpr ⟨h'.1, forall_mem_singleton.mpr fun _ h => nomatch h⟩, h'.2.1, h'.2.2⟩

/-- only `reject` (`d = .simple`) puts the message back among the waiting ones, which is why it must
    come out of a normal-category hold -/
theorem early_dispose {t : Int} {q : Q} (d : Dest) (i : String) (h : EarlyInv t q)
    (hret : d = .simple → ∀ x, findHeld q i = some x → x.frm = .normal) : EarlyInv t (dispose d q i) := by
  fun_cases dispose with
  | case2 => exact h
  | case1 x hf =>
    have hB := fun y hy => h.2.1 y (mem_dropHeld (i := i) hy)
    cases d with
    | simple =>
      exact ⟨forall_mem_append.mpr
        ⟨h.1, forall_mem_singleton.mpr (h.2.1 x (findHeld_mem hf) (hret rfl x hf))⟩, hB, h.2.2⟩
    | _ => exact ⟨h.1, hB, h.2.2⟩

theorem early_poll (q : Q) (cat : Cat) (now : Int) (topics : List String) (h' : EarlyInv now q) :
    EarlyInv now (poll q cat now topics).2 := by
  fun_cases poll
  · fun_cases pollNormal with  -- nothing waiting, head overdue, head of a foreign topic, head delivered
    | case1 => exact h'
    | case2 m rest hs | case4 m rest hs => exact ⟨(forall_mem_cons.mp (hs ▸ h'.1)).2, h'.2.1, h'.2.2⟩
    | case3 m rest hs =>
      obtain ⟨hm, hr⟩ := forall_mem_cons.mp (hs ▸ h'.1)
      exact ⟨forall_mem_append.mpr ⟨hr, forall_mem_singleton.mpr hm⟩, h'.2.1, h'.2.2⟩
  · fun_cases pollDelayed
    · exact h'
    · exact ⟨h'.1, h'.2.1, (popAt_all (P := fun k x => x.due = some k) h'.2.2).2⟩
  · fun_cases pollDead <;> exact h'

/-- the entry added to `processing` comes, if its category is normal, out of `simple` -/
theorem early_pollTake (q : Q) (c : Nat) (cat : Cat) (now : Int) (topics : List String)
    (h' : EarlyInv now q) : EarlyInv now (pollTake q c cat now topics).2 := by
  have hp := early_poll q cat now topics h'
  rw [pollTake_eq]
  cases hr : (poll q cat now topics).1 with
  | none => exact hp
  | some m =>
    refine ⟨hp.1, forall_mem_append.mpr ⟨hp.2.1, forall_mem_singleton.mpr fun hc => ?_⟩, hp.2.2⟩
    cases (hc : cat = .normal)
    exact h'.1 m (poll_mem hr)

theorem early_step (cron) (t : Int) (q : Q) (op : Op) (h : EarlyInv t q)
    (hclk : ∀ n, opNow op = some n → t ≤ n) (hret : okReturn q op) :
    EarlyInv ((opNow op).getD t) (step cron q op) := by
  cases op with
  | put m now | reput m now =>
    -- `reputA` differs from `put` in `limbo` only, of which the invariant does not speak
    exact early_put cron t now q m (hclk now rfl) h
  | ack i => exact early_dispose .acked i h fun h => nomatch h
  | nack i => exact early_dispose .dead i h fun h => nomatch h
  | unhold i => exact early_dispose .limbo i h fun h => nomatch h
  | reject i => exact early_dispose .simple i h fun _ => hret
  | finish c perm =>
    simp only [step, opNow, Option.getD]
    split
    · next hp =>
      have held (y : Held) (hy : y ∈ perm) := (isPerm_iff.mp hp).mem_iff.mp hy
      exact ⟨forall_mem_append.mpr ⟨h.1, forall_mem_map.mpr fun y hy => h.2.1 y (held y hy) (hret y (held y hy))⟩,
        fun _ h => (nomatch h), h.2.2⟩
    · exact h
  | update now =>
    have h' := h.mono (hclk now rfl)
    refine ⟨forall_mem_append.mpr ⟨h'.1, forall_mem_flatMap.mpr fun e he x hxe d hd => ?_⟩, h'.2.1,
      fun e he => h'.2.2 e (mem_filter.mp he).1⟩
    obtain ⟨he, hlt⟩ := mem_filter.mp he
    cases (h'.2.2 e he x hxe).symm.trans hd
    exact of_decide_eq_true hlt
  | poll c cat now topics => exact early_pollTake q c cat now topics (h.mono (hclk now rfl))

end Repid.Mem
