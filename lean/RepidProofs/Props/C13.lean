/-
C13 — The stored result is the outcome of the latest execution.
Model: `Worker.process` (`stores` = result-bucket stores attempted, in order, each with the success
flag of the stored outcome) and `Worker.actorRun`.
-/
import RepidProofs.Proofs.Processor
import RepidProofs.Props.C02

namespace Repid.C13
open Worker

/-- the bucket after a list of stores is the last one (each store overwrites under the same id) -/
def bucketAfter (stores : List Bool) : Option Bool := stores.getLast?

/-- non-eager executions with results enabled store exactly one bucket: the outcome of THAT
    execution (success iff the actor returned) -/
theorem execution_stores_own_outcome (p : Params) (now : Int) (cron : String → Int → Int) (pn : Int)
    (sf : Bool) (o : Outcome) (rp : ResultProps) (hr : p.result = some rp)
    (ho : ∀ pre a, o ≠ .eager pre a) :
    (process p now cron pn true sf o).stores = [decide (o = .ret)] := by
  obtain ⟨br, h⟩ := actorRun_nonEager p now cron pn true sf o ho
  simp [process_eq, h, hr]

/-- `latest_wins`: over any chain of executions of one job (retries), the bucket holds the outcome
    of the LAST execution: whatever earlier attempts stored is overwritten. -/
theorem latest_wins (earlier : List (List Bool)) (last : List Bool) (x : Bool) (hl : last = [x]) :
    bucketAfter (earlier.flatten ++ last) = some x := by
  simp [bucketAfter, hl]

/-- `disabled_writes_nothing`: with results disabled nothing is ever written — for every outcome,
    eager or not (set_result / set_exception are refused without result parameters). -/
theorem disabled_writes_nothing (p : Params) (now : Int) (cron : String → Int → Int) (pn : Int)
    (hb sf : Bool) (o : Outcome) (hr : p.result = none) :
    (process p now cron pn hb sf o).stores = [] := by
  simp only [process_eq, hr]
  suffices h : (actorRun p now cron pn hb sf o).ran.filterMap Cb.stored = [] by simp [h]
  fun_cases actorRun
  -- only the last branch, an accepted eager response, runs callbacks
  case case8 d hf _ _ _ r =>
    -- set_result / set_exception are refused, so no store position is recorded and the callbacks
    -- that ran are the registered ones
    obtain ⟨hc, hl, -, hn⟩ := foldPre_ok hf
    have : Pred.C16.lastSet _ = none := Decidable.byContradiction fun hs => by simpa [hr] using hn hs
    simp [r, runCallbacks, DepState.finalCallbacks, hl, hc, this, users_stored]
  all_goals rfl

/-- the outcome of `actor_run` does not depend on whether the result store works -/
theorem actorRun_store_indep (p : Params) (now : Int) (cron : String → Int → Int) (pn : Int)
    (hb : Bool) (o : Outcome) :
    actorRun p now cron pn hb true o = actorRun p now cron pn hb false o := by
  rfl

/-- `store_failure_harmless`: a failing result store never changes the message's disposition —
    for EVERY outcome (eager or not) the broker calls are the same whether the store works or
    raises. -/
theorem store_failure_harmless (p : Params) (now : Int) (cron : String → Int → Int) (pn : Int)
    (hb : Bool) (o : Outcome) :
    (process p now cron pn hb true o).calls = (process p now cron pn hb false o).calls := by
  simp only [process_eq, actorRun_store_indep]

/-- regression statement for F8 (repaired): the eager path too keeps its single disposition
    (F8 concerns C02 and C13 alike: the statement is `C02.eager_callback_failure_fixed`) -/
theorem eager_store_failure_fixed :
    let p : Params := { result := some { id := "r", ttl := none }, retries := { maxAmount := 2, alreadyTried := 0 } }
    (process p 0 (fun _ n => n) 5000000 true true (.eager [.setResult] .ack)).calls = [.ack] :=
  C02.eager_callback_failure_fixed

/-- `eager_last_set`: after an eager response the bucket holds the result or exception set LAST. -/
theorem eager_last_set_examples :
    let p : Params := { result := some { id := "r", ttl := none } }
    (process p 0 (fun _ n => n) 0 true false (.eager [.setResult, .setException] .ack)).stores = [false] ∧
    (process p 0 (fun _ n => n) 0 true false (.eager [.setException, .addCallback 1 false, .setResult] .nack)).stores = [true] := by
  decide

theorem eager_last_set (hb : Bool) (pre : List Pre) (d d' : DepState) (x : Pre) (s : Bool)
    (hx : (x = .setResult ∧ s = true) ∨ (x = .setException ∧ s = false))
    (h : foldPre d true hb (pre ++ [x]) = .ok d') :
    ∃ i, d'.lazy = some (i, s) ∧ d'.resultSuccess = some s := by
  have hs : Pred.C16.isSet x = some s := by rcases hx with ⟨rfl, rfl⟩ | ⟨rfl, rfl⟩ <;> rfl
  obtain ⟨-, hl, hr, -⟩ := foldPre_ok h
  rw [lastSet_append_set hs] at hl hr
  exact ⟨_, hl, hr⟩

/-- `successor_keeps_result_settings`: the parameters handed to `requeue` for a retry and for the next iteration of a
    recurring job carry the same result settings (id, ttl) as the message that just ran — every later execution stores
    under the same id, so "the latest execution overwrites" extends over retry and reschedule chains -/
theorem successor_keeps_result_settings (p : Params) (now : Int) (cron : String → Int → Int) (d : Int) :
    (p.prepareReschedule now cron).result = p.result ∧ (p.prepareRetry now d).result = p.result := by
  simp [Params.prepareReschedule, Params.prepareRetry]

end Repid.C13
