/-
The atoms of the in-memory broker, one by one: the form in which the property proofs take each apart (`dispose` for the
four that dispose of a held message, the `_frame` lemmas, `poll_mem`, `pollTake_eq`) and what it does to the per-id count;
together `total_step`: an atom adds to the count of an id exactly what it `introduces`.
A poll is taken apart along the branches of the model functions themselves (`fun_cases pollNormal`:
nothing waiting, head overdue, head of a foreign topic, head delivered — in that order; likewise `pollDelayed`,
`pollDead`, `put`).
-/
import RepidModel.Broker.MemHistory
import RepidProofs.Proofs.MemCount

namespace Repid.Mem
open List Pred.C01

@[simp] theorem heldMsgs_mk (s d dd p a l b) : heldMsgs ⟨s, d, dd, p, a, l, b⟩ = p.map (·.msg) := rfl

theorem findHeld_id {q : Q} {i : String} {h : Held} (hf : findHeld q i = some h) : h.msg.id = i :=
  have := find?_some hf
  eq_of_beq this

theorem findHeld_mem {q : Q} {i : String} {h : Held} (hf : findHeld q i = some h) : h ∈ q.processing :=
  mem_of_find?_eq_some hf

theorem mem_dropHeld {q : Q} {i : String} {h : Held} (hh : h ∈ dropHeld q i) : h ∈ q.processing :=
  mem_of_mem_eraseP hh

theorem cnt_dropHeld {q : Q} {id : String} {h : Held} (hf : findHeld q id = some h) (i : String) :
    cnt i (heldMsgs q) = [h.msg.id].count i + cnt i ((dropHeld q id).map (·.msg)) :=
  (cnt_perm i ((perm_eraseP_of_find? hf).map _)).trans (cnt_cons ..)

inductive Dest where
  | simple | dead | acked | limbo
  deriving DecidableEq

def Q.add (q : Q) (m : Msg) : Dest → Q
  | .simple => { q with simple := q.simple ++ [m] }
  | .dead => { q with dead := q.dead ++ [m] }
  | .acked => { q with acked := q.acked ++ [m] }
  | .limbo => { q with limbo := q.limbo ++ [m] }

/-- `ackA`, `nackA`, `rejectA` and `unholdA` are one operation: they differ only in the list the
    message goes to. -/
def dispose (d : Dest) (q : Q) (id : String) : Q :=
  match findHeld q id with
  | some h =>
    ({ q with processing := dropHeld q id, believes := q.believes.filter (·.2 != id) } : Q).add h.msg d
  | none => q

theorem ackA_eq (q : Q) (i : String) : ackA q i = dispose .acked q i := rfl
theorem nackA_eq (q : Q) (i : String) : nackA q i = dispose .dead q i := rfl
theorem rejectA_eq (q : Q) (i : String) : rejectA q i = dispose .simple q i := rfl
theorem unholdA_eq (q : Q) (i : String) : unholdA q i = dispose .limbo q i := rfl

theorem dispose_of_held {q : Q} {i : String} {h : Held} (d : Dest) (hf : findHeld q i = some h) :
    dispose d q i =
      ({ q with processing := dropHeld q i, believes := q.believes.filter (·.2 != i) } : Q).add h.msg d := by
  simp only [dispose, hf]

theorem dispose_of_not_held {q : Q} {i : String} (d : Dest) (hf : findHeld q i = none) :
    dispose d q i = q := by
  simp only [dispose, hf]

theorem dispose_processing {q : Q} {i : String} {h : Held} (d : Dest) (hf : findHeld q i = some h) :
    (dispose d q i).processing = dropHeld q i := by
  rw [dispose_of_held d hf]
  cases d <;> rfl

theorem dispose_believes {q : Q} {i : String} {h : Held} (d : Dest) (hf : findHeld q i = some h) :
    (dispose d q i).believes = q.believes.filter (·.2 != i) := by
  rw [dispose_of_held d hf]
  cases d <;> rfl

theorem total_add (i : String) (q : Q) (m : Msg) (d : Dest) :
    total i (q.add m d) = total i q + [m.id].count i := by
  cases d <;> simp +arith only [total, Q.add, heldMsgs, cnt_append, cnt_cons, cnt_nil]

theorem total_dispose (i : String) (d : Dest) (q : Q) (id : String) :
    total i (dispose d q id) = total i q := by
  fun_cases dispose with
  | case1 h hf =>
    rw [total_add]
    simp +arith only [total, heldMsgs_mk, cnt_dropHeld hf i]
  | case2 => rfl

theorem put_frame (q : Q) (m : Msg) (now : Int) (cron : String → Int → Int) :
    ∃ s d, put q m now cron = { q with simple := s, delayed := d } := by
  fun_cases put <;> exact ⟨_, _, rfl⟩

theorem live_put (cron) (i : String) (q : Q) (m : Msg) (now : Int) :
    live i (put q m now cron) = live i q + [m.id].count i := by
  fun_cases put <;>
    simp +arith only [live, cntId_eq_cnt, heldMsgs, cnt_dictAppend, cnt_append, cnt_cons, cnt_nil]

theorem total_put (cron) (i : String) (q : Q) (m : Msg) (now : Int) :
    total i (put q m now cron) = total i q + [m.id].count i := by
  obtain ⟨s, d, h⟩ := put_frame q m now cron
  have := live_put cron i q m now
  rw [h] at this ⊢
  simp +arith only [total_eq_live, this]

theorem reputA_eq (q : Q) (m : Msg) (now : Int) (cron : String → Int → Int) :
    reputA q m now cron = { put q m now cron with limbo := q.limbo.eraseP (·.id == m.id) } := by
  obtain ⟨s, d, h⟩ := put_frame q m now cron
  rw [reputA, h]

theorem total_reputA (cron) (i : String) (q : Q) (m : Msg) (now : Int) :
    total i (reputA q m now cron) = total i q + (introduces q (.reput m now)).count i := by
  obtain ⟨s, d, h⟩ := put_frame q m now cron
  have h1 := total_put cron i q m now
  have h2 := cnt_eraseP i m q.limbo
  simp only [reputA_eq, introduces, h, total, heldMsgs] at h1 ⊢
  omega

theorem total_updateDelayed (i : String) (q : Q) (now : Int) :
    total i (updateDelayed q now) = total i q := by
  simp +arith only [updateDelayed, total, heldMsgs, cnt_append,
    ← cnt_filter_split i q.delayed (fun e => decide (e.1 < now))]

theorem dictAppend_all {P : Int → Msg → Prop} {t : Int} {m : Msg} (hm : P t m) {d : List (Int × List Msg)}
    (hd : ∀ e ∈ d, ∀ x ∈ e.2, P e.1 x) : ∀ e ∈ dictAppend d t m, ∀ x ∈ e.2, P e.1 x := by
  fun_induction dictAppend with
  | case1 => exact forall_mem_singleton.mpr (forall_mem_singleton.mpr hm)
  | case2 ms rest =>
    have ⟨h1, h2⟩ := forall_mem_cons.mp hd
    exact forall_mem_cons.mpr ⟨forall_mem_append.mpr ⟨h1, forall_mem_singleton.mpr hm⟩, h2⟩
  | case3 k ms rest _ ih =>
    have ⟨h1, h2⟩ := forall_mem_cons.mp hd
    exact forall_mem_cons.mpr ⟨h1, ih h2⟩

theorem popAt_all {P : Int → Msg → Prop} {t : Int} {d : List (Int × List Msg)}
    (h : ∀ e ∈ d, ∀ x ∈ e.2, P e.1 x) :
    (∀ m, (popAt d t).1 = some m → P t m) ∧ ∀ e ∈ (popAt d t).2, ∀ x ∈ e.2, P e.1 x := by
  -- the branches of `popAt`: no entry left; the entry of `t` holds nothing (never so in the code), one message, more
  -- than one; another entry
  fun_induction popAt with
  | case1 => exact ⟨fun _ h => (nomatch h), fun _ h => (nomatch h)⟩
  | case2 rest => exact ⟨fun _ h => (nomatch h), h⟩
  | case3 rest m =>
    have ⟨h1, h2⟩ := forall_mem_cons.mp h
    exact ⟨fun _ e => Option.some.inj e ▸ h1 m (.head _), h2⟩
  | case4 rest m ms' _ =>
    have ⟨h1, h2⟩ := forall_mem_cons.mp h
    exact ⟨fun _ e => Option.some.inj e ▸ h1 m (.head _), forall_mem_cons.mpr ⟨fun x hx => h1 x (.tail _ hx), h2⟩⟩
  | case5 k ms rest _ _ ih =>
    have ⟨h1, h2⟩ := forall_mem_cons.mp h
    exact ⟨(ih h2).1, forall_mem_cons.mpr ⟨h1, (ih h2).2⟩⟩

theorem poll_mem {q : Q} {cat : Cat} {now : Int} {topics : List String} {m : Msg}
    (h : (poll q cat now topics).1 = some m) :
    match cat with
    | .normal => m ∈ q.simple
    | .delayed => m ∈ delayedMsgs q.delayed
    | .dead => m ∈ q.dead := by
  cases cat <;> simp only [poll] at h ⊢ <;> revert h
  · fun_cases pollNormal with
    | case4 x xs hs => exact fun h => hs ▸ Option.some.inj h ▸ .head _
    | _ => exact fun h => nomatch h
  · fun_cases pollDelayed
    · exact fun h => nomatch h
    · exact (popAt_all (P := fun _ x => x ∈ delayedMsgs q.delayed)
        fun e he x hx => mem_flatMap.mpr ⟨e, he, hx⟩).1 m
  · fun_cases pollDead
    · exact fun h => nomatch h
    · next x xs hd => exact fun h => hd ▸ Option.some.inj h ▸ .head _

theorem poll_frame (q : Q) (cat : Cat) (now : Int) (topics : List String) :
    ∃ s d dd, (poll q cat now topics).2 = { q with simple := s, delayed := d, dead := dd } := by
  fun_cases poll
  · fun_cases pollNormal <;> exact ⟨_, _, _, rfl⟩
  · fun_cases pollDelayed <;> exact ⟨_, _, _, rfl⟩
  · fun_cases pollDead <;> exact ⟨_, _, _, rfl⟩

theorem total_poll (i : String) (q : Q) (cat : Cat) (now : Int) (topics : List String) :
    total i (poll q cat now topics).2 + cnt i (poll q cat now topics).1.toList = total i q := by
  fun_cases poll
  · fun_cases pollNormal <;>
      simp +arith only [total, heldMsgs, cnt_append, cnt_cons, cnt_nil, Option.toList, *]
  · fun_cases pollDelayed
    · rfl
    · next t _ _ => simp +arith +zetaDelta only [total, heldMsgs, cnt_popAt i q.delayed t]
  · fun_cases pollDead <;> simp +arith only [total, heldMsgs, cnt_cons, cnt_nil, Option.toList, *]

theorem pollTake_eq (q : Q) (c : Nat) (cat : Cat) (now : Int) (topics : List String) :
    pollTake q c cat now topics = ((poll q cat now topics).1,
      match (poll q cat now topics).1 with
      | some m => { (poll q cat now topics).2 with
          processing := (poll q cat now topics).2.processing ++ [{ msg := m, who := c, frm := cat }],
          believes := (poll q cat now topics).2.believes ++ [(c, m.id)] }
      | none => (poll q cat now topics).2) := by
  fun_cases pollTake <;> simp only [*]

theorem pollTake_frame (q : Q) (c : Nat) (cat : Cat) (now : Int) (topics : List String) :
    ∃ p b, (pollTake q c cat now topics).2 = { (poll q cat now topics).2 with processing := p, believes := b } := by
  rw [pollTake_eq]
  cases (poll q cat now topics).1 <;> exact ⟨_, _, rfl⟩

theorem total_pollTake (i : String) (q : Q) (c : Nat) (cat : Cat) (now : Int) (topics : List String) :
    total i (pollTake q c cat now topics).2 = total i q := by
  rw [pollTake_eq, ← total_poll i q cat now topics]
  cases (poll q cat now topics).1 <;>
    simp +arith only [total, heldMsgs, map_append, cnt_append, map_cons, map_nil, cnt_cons, cnt_nil,
      Option.toList]

theorem total_finishA (i : String) (q : Q) (c : Nat) (perm : List Held) (h : perm.Perm q.processing) :
    total i (finishA q c perm) = total i q := by
  simp +arith only [finishA, total, heldMsgs, cnt_append, map_nil, cnt_nil, cnt_perm i (h.map (·.msg))]

theorem total_step (cron) (i : String) (q : Q) (op : Op) :
    total i (step cron q op) = total i q + (introduces q op).count i := by
  cases op with
  | put m now => exact total_put cron i q m now
  | reput m now => exact total_reputA cron i q m now
  | finish c perm =>
    simp only [step]
    split
    · next h => exact total_finishA i q c perm (isPerm_iff.mp h)
    · rfl
  | _ =>
    simp only [step, introduces, count_nil, Nat.add_zero, ackA_eq, nackA_eq, rejectA_eq, unholdA_eq,
      total_dispose, total_updateDelayed, total_pollTake]

theorem total_run (cron) (i : String) (ops : List Op) (q : Q) :
    total i (run cron q ops) = total i q + (introduced cron q ops).count i := by
  fun_induction introduced with
  | case1 => rfl
  | case2 q op rest ih =>
    rw [count_append, ← Nat.add_assoc, ← total_step]
    exact ih

end Repid.Mem
