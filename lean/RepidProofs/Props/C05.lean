/-
C05 — Delayed messages are never delivered early and never forgotten (in-memory broker).
-/
import RepidModel.Pred.Broker
import RepidProofs.Proofs.MemEarly

namespace Repid.C05
open Mem Pred.C05

/-- Histories admitted by the partial theorem: the clock read by successive atoms never goes back,
    and messages are only returned (reject / finish) out of normal-category holds. -/
def Valid (cron : String → Int → Int) : Int → Q → List Op → Prop
  | _, _, [] => True
  | t, q, op :: rest =>
    (∀ n, opNow op = some n → t ≤ n) ∧ okReturn q op ∧
    Valid cron ((opNow op).getD t) (step cron q op) rest

/-- `rest` lets one induction serve `valid_run` (`rest = []`) and `mem_never_early_partial` (`rest` =
    the delivering poll: what remains valid gives `t' ≤ now` for it). -/
theorem early_run (cron : String → Int → Int) (ops rest : List Op) (t : Int) (q : Q)
    (hinv : EarlyInv t q) (hv : Valid cron t q (ops ++ rest)) :
    ∃ t', EarlyInv t' (run cron q ops) ∧ t ≤ t' ∧
      (∀ op ∈ ops, ∀ n, opNow op = some n → n ≤ t') ∧ Valid cron t' (run cron q ops) rest := by
  induction ops generalizing t q with
  | nil => exact ⟨t, hinv, Int.le_refl t, fun _ h => (nomatch h), hv⟩
  | cons op ops ih =>
    obtain ⟨h1, h2, h3⟩ := hv
    obtain ⟨t', hi, hle, hall, hv'⟩ := ih _ _ (early_step cron t q op hinv h1 h2) h3
    refine ⟨t', hi, Int.le_trans ?_ hle, List.forall_mem_cons.mpr ⟨fun n hn => ?_, hall⟩, hv'⟩
    · cases ho : opNow op with
      | none => exact Int.le_refl t
      | some n => exact h1 n ho
    · rwa [hn] at hle

theorem valid_run (cron : String → Int → Int) (ops : List Op) (t : Int) (q : Q)
    (hinv : EarlyInv t q) (hv : Valid cron t q ops) :
    ∃ t', EarlyInv t' (run cron q ops) ∧ t ≤ t' ∧
      (∀ op ∈ ops, ∀ n, opNow op = some n → n ≤ t') := by
  obtain ⟨t', hi, hle, hall, -⟩ := early_run cron ops [] t q hinv (ops.append_nil.symm ▸ hv)
  exact ⟨t', hi, hle, hall⟩

/-- `mem_never_early_partial`: in every valid history starting from the empty queue, whenever a
    normal-category poll at `now` hands out a message that was enqueued with due time `d`, then
    `d < now`.  PARTIAL: histories in which a message held out of the DELAYED/DEAD category is
    rejected or returned by finish are excluded (see `mem_delayed_return_witness`). -/
theorem mem_never_early_partial (cron : String → Int → Int) (pre : List Op) (c : Nat) (now : Int)
    (topics : List String) (m : Msg) (d : Int)
    (hv : Valid cron 0 {} (pre ++ [.poll c .normal now topics]))
    (hdeliv : (pollTake (run cron {} pre) c .normal now topics).1 = some m)
    (hdue : m.due = some d) : d < now := by
  obtain ⟨t', hi, -, -, hv'⟩ := early_run cron pre _ 0 {} (.empty 0) hv
  rw [pollTake_eq] at hdeliv
  exact Int.lt_of_lt_of_le (hi.1 m (poll_mem hdeliv) d hdue) (hv'.1 now rfl)

/-- the same through the predicate evaluated on implementation traces (millisecond resolution) -/
theorem notEarlyMs_of_lt (d now : Int) (h : d < now) : notEarlyMs (some d) now = true := by
  simp only [notEarlyMs, decide_eq_true_eq]
  exact Int.ediv_le_ediv (by omega) (by omega)

/-- Refutation of the full clause on the current code: a message due in one hour, inspected through
    the DELAYED category and rejected (or returned by `finish`), is handed to a normal consumer at
    time 0. -/
theorem mem_delayed_return_witness :
    let m : Msg := { id := "m1", topic := "t", params := { delay := { nextExecutionTime := some 3600000000 } } }
    let cron : String → Int → Int := fun _ n => n
    let q1 := put {} m 0 cron
    let q2 := (pollTake q1 1 .delayed 0 []).2
    let q3 := rejectA q2 "m1"
    let r := pollTake q3 0 .normal 0 []
    (r.1.map (·.id)) = some "m1" ∧ (r.1.bind (·.due)) = some 3600000000 ∧
    notEarlyMs (r.1.bind (·.due)) 0 = false := by
  decide

/-- Until it is moved, a delayed message is visible only through the delayed category:
    a normal poll only ever returns a message from `simple`, a dead poll from `dead`,
    a delayed poll from the delayed dict. -/
theorem visible_only_delayed (q : Q) (cat : Cat) (now : Int) (topics : List String) (m : Msg)
    (h : (poll q cat now topics).1 = some m) :
    match cat with
    | .normal => m ∈ q.simple
    | .delayed => m ∈ delayedMsgs q.delayed
    | .dead => m ∈ q.dead :=
  poll_mem h

/-- "Never forgotten", step 1: the periodic `__update_delayed` at `now` moves EVERY entry that is
    due (`t < now`) into the normal queue, whatever the insertion order of the dict, and leaves no
    due entry behind. -/
theorem update_moves_all_due (q : Q) (now : Int) :
    (∀ e ∈ q.delayed, e.1 < now → ∀ m ∈ e.2, m ∈ (updateDelayed q now).simple) ∧
    (∀ e ∈ (updateDelayed q now).delayed, ¬ e.1 < now) ∧
    (∀ e ∈ q.delayed, ¬ e.1 < now → e ∈ (updateDelayed q now).delayed) := by
  refine ⟨fun e he hlt m hm => ?_, fun e he => ?_, fun e he hn => ?_⟩
  · exact List.mem_append_right _ (List.mem_flatMap.mpr ⟨e, List.mem_filter.mpr ⟨he, decide_eq_true hlt⟩, hm⟩)
  · simpa using (List.mem_filter.mp he).2
  · exact List.mem_filter.mpr ⟨he, by simpa using hn⟩

/-- "Never forgotten", step 2: number of foreign messages in front of the first wanted one. -/
def lead (topics : List String) (l : List Msg) : Nat := (l.takeWhile (fun x => !wants topics x)).length

theorem takeWhile_append_of_mem {α} {p : α → Bool} {y : α} (hy : p y = false) {l : List α} (l' : List α)
    (hl : y ∈ l) : (l ++ l').takeWhile p = l.takeWhile p := by
  fun_induction List.takeWhile with
  | case1 => nomatch hl
  | case2 a as ha ih =>
    have : y ∈ as := (List.mem_cons.mp hl).resolve_left fun e => Bool.false_ne_true (hy.symm.trans (e ▸ ha))
    rw [List.cons_append, List.takeWhile_cons_of_pos ha, ih this]
  | case3 a as ha => exact List.takeWhile_cons_of_neg (ne_true_of_eq_false ha)

/-- each failed normal poll brings the oldest wanted waiting message one position closer to the
    head; with nothing in front it is delivered (or, if expired, dead-lettered — C12).  Hence a
    wanted message with `k` foreign messages in front is handed out after at most `k+1` polls. -/
theorem poll_progress (q : Q) (now : Int) (topics : List String) (x : Msg) (xs : List Msg)
    (hs : q.simple = x :: xs) (hw : ∃ y ∈ q.simple, wants topics y = true) :
    let r := pollNormal q now topics
    (lead topics q.simple = 0 ∧ (r.1 = some x ∨ x.params.isOverdue now = true)) ∨
    (r.1 = none ∧ lead topics r.2.simple + 1 = lead topics q.simple) := by
  obtain ⟨y, hy, hyw⟩ := hw
  rw [hs] at hy
  simp only [pollNormal, hs, lead]
  cases hwx : wants topics x
  · right
    have hyxs : y ∈ xs := (List.mem_cons.mp hy).resolve_left fun e => by rw [e, hwx] at hyw; cases hyw
    cases h1 : x.params.isOverdue now
    · simp [hwx, takeWhile_append_of_mem (p := fun z => !wants topics z) (by simp [hyw]) [x] hyxs]
    · simp [hwx]
  · left
    cases h1 : x.params.isOverdue now <;> simp [hwx]

-- Non-vacuity of `Valid`: enqueue (due 5 s), idle, update at 6 s, deliver.
example :
    let m : Msg := { id := "a", topic := "t", params := { delay := { nextExecutionTime := some 5000000 } } }
    let cron : String → Int → Int := fun _ n => n
    Valid cron 0 {} [.put m 0, .poll 0 .normal 1000 [], .update 6000000, .poll 0 .normal 6000000 []] ∧
    ((pollTake (run cron {} [.put m 0, .poll 0 .normal 1000 [], .update 6000000]) 0 .normal 6000000 []).1.map (·.id))
      = some "a" := by
  exact ⟨by simp [Valid, opNow, okReturn], by decide⟩

end Repid.C05
