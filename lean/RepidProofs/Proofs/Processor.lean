/-
Characterising equations of the processor model (`Worker.report`, `Worker.process`, `Worker.actorRun`,
`Handle.call`, `DepState.pre`), through which C02, C04, C06, C13 and C16 use them.
-/
import RepidModel.Pred.Worker

namespace Repid.Worker

theorem report_retry (p : Params) (now : Int) (cron : String → Int → Int) (pn : Int)
    (h : p.retries.alreadyTried < p.retries.maxAmount) :
    report p false now cron pn = .requeue (p.prepareRetry now pn) := by
  simp [report, h]

theorem report_no_retry (p : Params) (success : Bool) (now : Int) (cron : String → Int → Int) (pn : Int)
    (h : success = true ∨ ¬ p.retries.alreadyTried < p.retries.maxAmount) :
    report p success now cron pn =
      if isRecurring p then .requeue (p.prepareReschedule now cron) else if success then .ack else .nack := by
  have : (!success && decide (p.retries.alreadyTried < p.retries.maxAmount)) = false := by
    rcases h with rfl | h
    · rfl
    · simp [h]
  simp only [report, this, Bool.false_eq_true, if_false]

/-- the function `process` filters the executed callbacks with (there an anonymous `fun`) -/
def Cb.stored : Cb → Option Bool
  | .store s => some s
  | .user _ _ => none

section
variable (p : Params) (now : Int) (cron : String → Int → Int) (pn : Int) (hb sf : Bool) (o : Outcome)

theorem process_eq : process p now cron pn hb sf o =
    let r := actorRun p now cron pn hb sf o
    { calls := r.calls ++ if r.reportingDone then [] else [report p r.success now cron pn],
      stores := r.ran.filterMap Cb.stored ++
        if r.reportingDone = false ∧ p.result.isSome ∧ hb then [r.success] else [],
      bodyRan := r.bodyRan, ran := r.ran,
      raised := !r.reportingDone && p.result.isSome && (!hb || sf) } := by
  have hf (f : Cb → Option Bool) (l : List Cb) (h : ∀ c, f c = c.stored) :
      l.filterMap f = l.filterMap Cb.stored := by rw [funext h]
  simp only [process]
  rw [hf _ _ (by intro c; cases c <;> rfl)]
  cases (actorRun p now cron pn hb sf o).reportingDone
  · cases p.result <;> simp
  · simp

theorem actorRun_nonEager (ho : ∀ pre a, o ≠ .eager pre a) : ∃ br,
    actorRun p now cron pn hb sf o = { success := decide (o = .ret), reportingDone := false, bodyRan := br } := by
  cases o with
  | eager pre a => exact absurd rfl (ho pre a)
  | _ => exact ⟨_, rfl⟩

theorem actorRun_eager_ok {pre : List Pre} {d : DepState} {a : Api} {b : BCall} {h' : Handle}
    (hf : foldPre {} p.result.isSome hb pre = .ok d)
    (hc : ({} : Handle).call p now cron pn a = .ok (b, h')) :
    actorRun p now cron pn hb sf (.eager pre a) =
      { success := d.resultSuccess.getD a.defaultSuccess, reportingDone := true, calls := [b],
        ran := d.finalCallbacks } := by
  simp only [actorRun, hf, hc, runCallbacks]

end

theorem call_ok {h h' : Handle} {p : Params} {now : Int} {cron : String → Int → Int}
    {dflt : Int} {a : Api} {b : BCall} (hc : h.call p now cron dflt a = .ok (b, h')) :
    h.readOnly = false ∧ h' = { h with readOnly := true } := by
  revert hc
  fun_cases Handle.call
  -- a branch that refuses returns no handle; one that accepts has passed the guard `h.readOnly`
  all_goals intro hc; cases hc
  all_goals exact ⟨Bool.eq_false_iff.mpr ‹_›, rfl⟩

open Pred.C16

-- `foldPre_ok` for one declaration, in the same form, so that the induction step there is a rewrite
theorem pre_ok {d d' : DepState} {hrp hb : Bool} {x : Pre} (h : d.pre hrp hb x = .ok d') :
    d'.callbacks = d.callbacks ++ users [x] ∧
    d'.lazy = ((isSet x).map fun s => (d.callbacks.length, s)).or d.lazy ∧
    d'.resultSuccess = (isSet x).or d.resultSuccess ∧
    (isSet x ≠ none → hrp = true ∧ hb = true) := by
  revert h
  fun_cases DepState.pre
  all_goals intro h; cases h
  all_goals simp_all [users, isSet]

theorem users_cons (x : Pre) (rest : List Pre) : users (x :: rest) = users [x] ++ users rest := by
  cases x <;> rfl

theorem users_of_isSet {x : Pre} {s : Bool} (h : isSet x = some s) : users [x] = [] := by
  cases x <;> first | rfl | cases h

theorem users_stored (pre : List Pre) : (users pre).filterMap Cb.stored = [] := by
  induction pre with
  | nil => rfl
  | cons x rest ih => cases x <;> exact ih

theorem lastSet_append_set {x : Pre} {s : Bool} (h : isSet x = some s) (pre : List Pre) :
    lastSet (pre ++ [x]) = some (pre.length, s) := by
  induction pre with
  | nil => simp [lastSet, h]
  | cons y rest ih => simp [lastSet, ih]

/-- The state after an accepted sequence of declarations, in terms of the specification functions
    `users` and `lastSet` of `Pred.C16`; what C13 and C16 say about `foldPre` follows from it. -/
theorem foldPre_ok {hrp hb : Bool} {pre : List Pre} {d d' : DepState}
    (h : foldPre d hrp hb pre = .ok d') :
    d'.callbacks = d.callbacks ++ users pre ∧
    d'.lazy = ((lastSet pre).map fun is =>
      (d.callbacks.length + (users (pre.take is.1)).length, is.2)).or d.lazy ∧
    d'.resultSuccess = ((lastSet pre).map (·.2)).or d.resultSuccess ∧
    (lastSet pre ≠ none → hrp = true ∧ hb = true) := by
  fun_induction foldPre with
  | case1 d => cases h; simp [users, lastSet]
  | case3 => cases h
  | case2 d x rest d1 hx ih =>
    obtain ⟨c1, l1, r1, g1⟩ := pre_ok hx
    obtain ⟨c2, l2, r2, g2⟩ := ih h
    rw [c2, l2, r2, c1, l1, r1, users_cons x rest, lastSet]
    cases hl : lastSet rest with
    | none =>
      cases hs : isSet x with
      | none => simp
      | some s => simpa [users] using g1 (by simp [hs])
    -- a position recorded in `rest` moves on by the callbacks that `x` registers
    | some is => simpa [users_cons x (rest.take is.1), Nat.add_assoc] using g2 (by simp [hl])

end Repid.Worker
