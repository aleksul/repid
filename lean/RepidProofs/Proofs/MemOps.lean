/-
What conservation says about one id.  An id that occurs once and is held occurs nowhere else
(`held_once`), so after disposing it is in the destination list alone (`dispose_once`): the
per-operation clauses of C01 and the shutdown clauses of C03 are read off that one table.  An id
that occurs at most once and is handed out by a poll was not held, hence not believed held (C14).
-/
import RepidProofs.Proofs.MemStep

namespace Repid.Mem
open List

theorem findHeld_none_of_cnt {q : Q} {i : String} (h0 : cnt i (heldMsgs q) = 0) : findHeld q i = none :=
  find?_eq_none.mpr fun _ hx hp => ne_of_cnt_zero h0 (mem_map_of_mem hx) (eq_of_beq hp)

theorem held_once {q : Q} {i : String} {h : Held} (hone : (ids q).count i = 1)
    (hheld : findHeld q i = some h) :
    cnt i q.simple = 0 ∧ cnt i (delayedMsgs q.delayed) = 0 ∧ cnt i q.dead = 0 ∧
      cnt i ((dropHeld q i).map (·.msg)) = 0 ∧ cnt i q.acked = 0 ∧ cnt i q.limbo = 0 := by
  rw [← total_eq_count_ids, total, cnt_dropHeld hheld i, findHeld_id hheld, count_singleton_self] at hone
  simp +arith only [Nat.add_eq_zero_iff] at hone
  simp only [hone, and_self]

theorem dispose_once (d : Dest) {q : Q} {i : String} {h : Held} (hone : (ids q).count i = 1)
    (hheld : findHeld q i = some h) :
    cnt i (heldMsgs (dispose d q i)) = 0 ∧ cnt i (delayedMsgs (dispose d q i).delayed) = 0 ∧
    cnt i (dispose d q i).simple = (if d = .simple then 1 else 0) ∧
    cnt i (dispose d q i).dead = (if d = .dead then 1 else 0) ∧
    cnt i (dispose d q i).acked = (if d = .acked then 1 else 0) ∧
    cnt i (dispose d q i).limbo = (if d = .limbo then 1 else 0) := by
  rw [dispose_of_held d hheld]
  cases d <;>
    simp only [Q.add, heldMsgs_mk, cnt_append, cnt_cons, cnt_nil, findHeld_id hheld, count_singleton_self,
      held_once hone hheld, reduceCtorEq, ↓reduceIte, and_self]

theorem dispose_dispose (d d' : Dest) {q : Q} {i : String} {h : Held} (hone : (ids q).count i = 1)
    (hheld : findHeld q i = some h) : dispose d' (dispose d q i) i = dispose d q i :=
  dispose_of_not_held _ (findHeld_none_of_cnt (dispose_once d hone hheld).1)

theorem polled_not_held {q : Q} {cat : Cat} {now : Int} {topics : List String} {m : Msg}
    (hu : total m.id q ≤ 1) (hp : (poll q cat now topics).1 = some m) : cnt m.id (heldMsgs q) = 0 := by
  -- the polled message was in one of the waiting lists, and its id occurs at most once anywhere
  have hw := poll_mem hp
  have : 0 < cnt m.id q.simple ∨ 0 < cnt m.id (delayedMsgs q.delayed) ∨ 0 < cnt m.id q.dead := by
    cases cat <;> simp only [cnt_pos hw, true_or, or_true]
  unfold total at hu
  omega

theorem not_believed {q : Q} {i : String}
    (hback : ∀ b ∈ q.believes, ∃ h ∈ q.processing, h.who = b.1 ∧ h.msg.id = b.2)
    (h0 : cnt i (heldMsgs q) = 0) (c : Nat) : (c, i) ∉ q.believes := fun hb =>
  let ⟨_, hm, _, hid⟩ := hback _ hb
  ne_of_cnt_zero h0 (mem_map_of_mem hm) hid

end Repid.Mem
