/-
C01 — Broker operations never lose or duplicate a message (in-memory broker).

Places of the statement ↔ model: waiting = `simple`, delayed = `delayed`, held = `processing`,
dead-lettered = `dead`, finally acknowledged = ghost `acked`.  The ghost `limbo` holds a message
between the two halves of `requeue` — it is in NO place of the statement.
-/
import RepidModel.Pred.C01
import RepidProofs.Proofs.MemOps

namespace Repid.C01
open Mem Pred.C01

/-- `mem_count`: every atom preserves, for every id, the number of occurrences over
    waiting ++ delayed ++ dead ++ held ++ acknowledged ++ limbo; only an atom that brings a message
    in from outside (`put`, or the enqueue half of a requeue of a message that was not held) adds
    one. -/
theorem mem_count (cron : String → Int → Int) (i : String) (q : Q) (op : Op) :
    (ids (step cron q op)).count i = (ids q).count i + (introduces q op).count i := by
  rw [← total_eq_count_ids, ← total_eq_count_ids]; exact total_step cron i q op

/-- `mem_exactly_one_place`: after ANY finite history of atoms — any interleaving of any number of
    clients, any clock values, any cancellation points (a cancelled call is a prefix of its atoms)
    — starting from the empty queue, with distinct introduced ids, every id ever enqueued occurs
    exactly once over all places (limbo included) and no other id occurs at all. -/
theorem mem_exactly_one_place (cron : String → Int → Int) (ops : List Op)
    (hdistinct : (introduced cron {} ops).Nodup) (i : String) :
    (ids (run cron {} ops)).count i = (if i ∈ introduced cron {} ops then 1 else 0) := by
  rw [← total_eq_count_ids, total_run, hdistinct.count]
  exact Nat.zero_add _

/-- …and, when no requeue is half-done at the end of the history (`limbo = []`), through the
    predicate the driver evaluates on implementation snapshots: each enqueued id is in exactly one
    of waiting / delayed / held / dead / acknowledged. -/
theorem mem_onePlace (cron : String → Int → Int) (ops : List Op)
    (hdistinct : (introduced cron {} ops).Nodup) (hlimbo : (run cron {} ops).limbo = []) :
    onePlace (run cron {} ops) (introduced cron {} ops) ((run cron {} ops).acked.map (·.id)) = true := by
  have key := mem_exactly_one_place cron ops hdistinct
  simp only [onePlace, Bool.and_eq_true, List.all_eq_true, beq_iff_eq, List.contains_iff_mem]
  refine ⟨fun i hi => ?_, fun i hi => ?_⟩
  · have := key i
    rwa [← total_eq_count_ids, total_eq_live, hlimbo, if_pos hi] at this
  · -- an id that was not introduced occurs nowhere
    refine Decidable.by_contra fun hn => List.count_eq_zero.mp ((key i).trans (if_neg hn)) ?_
    simp only [liveIds, ids, allMsgs, List.map_append, List.mem_append] at hi ⊢
    exact .inl (.inl hi)

/-- ack removes the message (it is then in no live place; it is in the acknowledged ghost). -/
theorem ack_removes (q : Q) (i : String) (h : Held) (hone : (ids q).count i = 1)
    (hheld : findHeld q i = some h) : ackOk (ackA q i) i = true := by
  simp only [ackOk, live, cntId_eq_cnt, ackA_eq, dispose_once .acked hone hheld, reduceCtorEq, ↓reduceIte]; rfl

/-- nack dead-letters it. -/
theorem nack_dead_letters (q : Q) (i : String) (h : Held) (hone : (ids q).count i = 1)
    (hheld : findHeld q i = some h) : nackOk (nackA q i) i = true := by
  simp only [nackOk, live, cntId_eq_cnt, nackA_eq, dispose_once .dead hone hheld, reduceCtorEq, ↓reduceIte]; rfl

/-- reject returns it to the category it was taken from — PARTIAL: proved for messages taken
    through the normal category (the code puts every rejected message into `simple`). -/
theorem reject_origin_partial (q : Q) (i : String) (h : Held) (hone : (ids q).count i = 1)
    (hheld : findHeld q i = some h) (hfrm : h.frm = .normal) :
    rejectOk (rejectA q i) i h.frm = true := by
  simp only [rejectOk, hfrm, live, cntId_eq_cnt, rejectA_eq, dispose_once .simple hone hheld, reduceCtorEq,
    ↓reduceIte]; rfl

/-- Refutation of the full clause on the current code: a dead-lettered message taken by a
    DEAD-category consumer and rejected ends up *waiting* (deliverable to normal consumers). -/
theorem reject_dead_witness :
    let m : Msg := { id := "m1", topic := "t" }
    let q0 : Q := { dead := [m] }
    let q1 := (pollTake q0 0 .dead 0 []).2
    let q2 := rejectA q1 "m1"
    findHeld q1 "m1" = some { msg := m, who := 0, frm := .dead } ∧
    rejectOk q2 "m1" .dead = false ∧ q2.simple = [m] ∧ q2.dead = [] := by
  decide

/-- the same for a message inspected through the DELAYED category: after reject it is waiting
    although its due time lies in the future. -/
theorem reject_delayed_witness :
    let m : Msg := { id := "m1", topic := "t", params := { delay := { nextExecutionTime := some 3600000000 } } }
    let q0 := put {} m 0 (fun _ n => n)
    let q1 := (pollTake q0 0 .delayed 0 []).2
    let q2 := rejectA q1 "m1"
    rejectOk q2 "m1" .delayed = false ∧ (q2.simple.map (·.id)) = ["m1"] ∧ q2.delayed = [] := by
  decide

/-- a *completed* requeue replaces the held message by the new payload and parameters under the
    same id: afterwards the id is in exactly one live place, with the new content. -/
theorem requeue_replaces (cron : String → Int → Int) (q : Q) (m : Msg) (now : Int) (h : Held)
    (hone : (ids q).count m.id = 1) (hheld : findHeld q m.id = some h) :
    live m.id (reputA (unholdA q m.id) m now cron) = 1 ∧
    (reputA (unholdA q m.id) m now cron).limbo = q.limbo := by
  obtain ⟨hs, hd, hdd, hp, -, hl⟩ := held_once hone hheld
  rw [unholdA_eq, dispose_of_held .limbo hheld, reputA_eq]
  refine ⟨(live_put cron m.id _ m now).trans ?_, ?_⟩
  · simp only [live, cntId_eq_cnt, Q.add, heldMsgs_mk, hs, hd, hdd, hp, List.count_singleton_self]
  · simp only [Q.add]
    rw [List.eraseP_append_right _ fun _ hb hp => ne_of_cnt_zero hl hb (eq_of_beq hp),
      List.eraseP_cons_of_pos (p := fun x : Msg => x.id == m.id) (beq_iff_eq.mpr (findHeld_id hheld))]
    exact List.append_nil _

/-- Cancellation: every call other than `requeue` consists of a single atom, so a cancelled call
    has applied none or all of its effect on the places — PARTIAL (requeue excluded). -/
theorem cancel_atomic_partial (c : Call) (k : Nat) (hc : ∀ m now, c ≠ .requeue m now) :
    c.cancelledAfter k = [] ∨ c.cancelledAfter k = c.atoms := by
  have one : ∀ x : Op, [x].take k = [] ∨ [x].take k = [x] := fun x => by cases k <;> simp
  cases c with
  | requeue m now => exact absurd rfl (hc m now)
  | _ => exact one _

/-- Refutation for `requeue` on the current code: cancelled between its two halves the message is
    in no place at all (neither live nor acknowledged): it is lost. -/
theorem requeue_cancel_witness :
    let m : Msg := { id := "m1", topic := "t" }
    let q0 : Q := { processing := [{ msg := m, who := 0, frm := .normal }] }
    let c := Call.requeue m 0
    let q1 := run (fun _ n => n) q0 (c.cancelledAfter 1)
    c.cancelledAfter 1 ≠ [] ∧ c.cancelledAfter 1 ≠ c.atoms ∧
    live "m1" q1 = 0 ∧ q1.acked = [] ∧ onePlace q1 ["m1"] [] = false := by
  decide

/-- the take of a message and its marking as held are one atom: no cancellation point of
    `consume` separates them (a message is never out of the queue without being held). -/
theorem take_marks_held (q : Q) (c : Nat) (cat : Cat) (now : Int) (topics : List String) (m : Msg)
    (h : (pollTake q c cat now topics).1 = some m) :
    { msg := m, who := c, frm := cat } ∈ (pollTake q c cat now topics).2.processing := by
  rw [pollTake_eq] at h ⊢
  simp only at h
  simp only [h, List.mem_append, List.mem_singleton, or_true]

-- Non-vacuity: a concrete history (enqueue ×2, consume, requeue, consume, ack) meets the hypotheses.
example :
    let m1 : Msg := { id := "a", topic := "t" }
    let m2 : Msg := { id := "b", topic := "t" }
    let ops : List Op := [.put m1 0, .put m2 0, .poll 0 .normal 0 [], .unhold "a", .reput m1 5,
                          .poll 0 .normal 6 [], .ack "b"]
    (introduced (fun _ n => n) {} ops).Nodup ∧ (run (fun _ n => n) {} ops).limbo = [] ∧
    introduced (fun _ n => n) {} ops = ["a", "b"] := by decide

end Repid.C01
