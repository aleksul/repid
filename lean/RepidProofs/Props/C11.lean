/-
C11 — A job reaches exactly the actor it names, only through that actor's queue.
Models: RepidModel/Route/Router.lean (routers, worker topic sets), RepidModel/Broker/InMemory.lean
(topic filter of the consumer).
-/
import RepidModel.Route.Router
import RepidProofs.Props.C05

namespace Repid.C11
open Route

/-- `name` is among the topics of queue `q` -/
def memT (tbq : List (String × List String)) (name q : String) : Prop := ∃ e ∈ tbq, e.1 = q ∧ name ∈ e.2

theorem memT_map (f : String × List String → String × List String) (tbq : List (String × List String))
    (m q : String) : memT (tbq.map f) m q ↔ ∃ e ∈ tbq, (f e).1 = q ∧ m ∈ (f e).2 :=
  ⟨fun ⟨_, h, h'⟩ => let ⟨e, he, hfe⟩ := List.mem_map.mp h; ⟨e, he, hfe ▸ h'⟩,
   fun ⟨_, he, h'⟩ => ⟨_, List.mem_map_of_mem he, h'⟩⟩

theorem mem_addName (l : List String) (n m : String) :
    m ∈ (if l.contains n then l else l ++ [n]) ↔ m ∈ l ∨ m = n := by
  by_cases hc : l.contains n
  · rw [if_pos hc]; exact ⟨.inl, fun h => h.elim id (· ▸ List.contains_iff_mem.mp hc)⟩
  · rw [if_neg hc, List.mem_append, List.mem_singleton]

theorem mem_addEntry_snd (q n m : String) (e : String × List String) :
    m ∈ (if e.1 == q then (e.1, if e.2.contains n then e.2 else e.2 ++ [n]) else e).2 ↔
      m ∈ e.2 ∨ (m = n ∧ e.1 = q) := by
  by_cases hq : e.1 = q
  · rw [if_pos (beq_iff_eq.mpr hq), and_iff_left hq]; exact mem_addName ..
  · rw [if_neg (mt beq_iff_eq.mp hq)]; exact (or_iff_left fun h => hq h.2).symm

theorem mem_discardEntry_snd (q n m : String) (e : String × List String) :
    m ∈ (if e.1 == q then (e.1, e.2.filter (· != n)) else e).2 ↔ m ∈ e.2 ∧ ¬ (m = n ∧ e.1 = q) := by
  by_cases hq : e.1 = q
  · rw [if_pos (beq_iff_eq.mpr hq), and_iff_left hq, List.mem_filter, bne_iff_ne]
  · rw [if_neg (mt beq_iff_eq.mp hq)]; exact (and_iff_left fun h => hq h.2).symm

theorem memT_add (tbq : List (String × List String)) (q n m q' : String) :
    memT (tbqAdd tbq q n) m q' ↔ memT tbq m q' ∨ (m = n ∧ q' = q) := by
  fun_cases tbqAdd with
  | case1 h => -- the queue has an entry `e₀`, which the name joins
    obtain ⟨e₀, he₀, hq₀⟩ := List.any_eq_true.mp h
    simp only [memT_map, apply_ite Prod.fst, ite_self, mem_addEntry_snd, and_or_left, exists_or]
    refine or_congr_right ⟨?_, ?_⟩
    · rintro ⟨e, -, rfl, rfl, rfl⟩; exact ⟨rfl, rfl⟩
    · rintro ⟨rfl, rfl⟩; exact ⟨e₀, he₀, beq_iff_eq.mp hq₀, rfl, beq_iff_eq.mp hq₀⟩
  | case2 => -- no entry for the queue: one is appended
    simp only [memT, List.mem_append, List.mem_singleton, or_and_right, exists_or, exists_eq_left]
    rw [and_comm, @eq_comm _ q]

theorem memT_discard (tbq : List (String × List String)) (q n m q' : String) :
    memT (tbqDiscard tbq q n) m q' ↔ memT tbq m q' ∧ ¬ (m = n ∧ q' = q) := by
  have hne (l : List (String × List String)) : memT (l.filter fun e => !e.2.isEmpty) m q' ↔ memT l m q' :=
    exists_congr fun e => by
      rw [List.mem_filter, and_assoc, and_congr_right_iff]
      exact fun _ => and_iff_right_of_imp fun h => by simpa using List.ne_nil_of_mem h.2
  simp only [tbqDiscard, hne, memT_map, apply_ite Prod.fst, ite_self, mem_discardEntry_snd]
  constructor
  · rintro ⟨e, he, rfl, hm, hn⟩
    exact ⟨⟨e, he, rfl, hm⟩, hn⟩
  · rintro ⟨⟨e, he, rfl, hm⟩, hn⟩
    exact ⟨e, he, rfl, hm, hn⟩

/-- invariant of every router / worker: one actor per name; the topic sets say exactly which (name, queue)
    pairs the actors have; no topic set is empty -/
def RInv (r : Router) : Prop :=
  (r.actors.map (·.name)).Nodup ∧
  (∀ m q, memT r.tbq m q ↔ ∃ a ∈ r.actors, a.name = m ∧ a.queue = q) ∧
  (∀ e ∈ r.tbq, e.2 ≠ [])

theorem find_mem_unique (l : List Actor) (h : (l.map (·.name)).Nodup) (a : Actor) (ha : a ∈ l) :
    l.find? (·.name == a.name) = some a := by
  induction l with
  | nil => cases ha
  | cons x rest ih =>
    rw [List.map_cons, List.nodup_cons] at h
    obtain rfl | ha := List.mem_cons.mp ha
    · exact List.find?_cons_of_pos (beq_self_eq_true _)
    · rw [List.find?_cons_of_neg, ih h.2 ha]
      exact fun he => h.1 (beq_iff_eq.mp he ▸ List.mem_map_of_mem ha)

theorem find_filter_ne (l : List Actor) (a : Actor) (n : String) (hn : a.name ≠ n) :
    (l.filter (·.name != a.name)).find? (·.name == n) = l.find? (·.name == n) := by
  rw [List.find?_filter]
  congr; funext x
  by_cases hx : x.name = n <;> simp [hx, hn.symm]

theorem find_some_iff (r : Router) (h : (r.actors.map (·.name)).Nodup) (n : String) (a : Actor) :
    r.find n = some a ↔ a ∈ r.actors ∧ a.name = n := by
  unfold Router.find
  constructor
  · intro hf
    exact ⟨List.mem_of_find?_eq_some hf, by simpa using List.find?_some hf⟩
  · rintro ⟨ha, rfl⟩
    exact find_mem_unique _ h a ha

theorem find_setActor (r : Router) (a : Actor) (n : String) :
    (r.setActor a).find n = if a.name = n then some a else r.find n := by
  rw [Router.find, Router.setActor, List.find?_append, List.find?_singleton]
  by_cases hn : a.name = n
  · subst hn
    rw [if_pos rfl, if_pos (beq_self_eq_true _), List.find?_eq_none.mpr, Option.none_or]
    exact fun x hx => by simpa using (List.mem_filter.mp hx).2
  · rw [if_neg hn, if_neg (mt beq_iff_eq.mp hn), find_filter_ne _ a n hn, Option.or_none]; rfl

theorem tbqAdd_nonempty (tbq : List (String × List String)) (q n : String) (h : ∀ e ∈ tbq, e.2 ≠ []) :
    ∀ e ∈ tbqAdd tbq q n, e.2 ≠ [] := by
  fun_cases tbqAdd with
  | case1 =>
    rw [List.forall_mem_map]
    intro e he
    obtain ⟨m, hm⟩ := List.exists_mem_of_ne_nil _ (h e he)
    exact List.ne_nil_of_mem ((mem_addEntry_snd q n m e).mpr (.inl hm))
  | case2 =>
    rw [List.forall_mem_append]
    exact ⟨h, by simp⟩

theorem tbqDiscard_nonempty (tbq : List (String × List String)) (q n : String) :
    ∀ e ∈ tbqDiscard tbq q n, e.2 ≠ [] := by
  intro e he hnil
  simpa [hnil] using (List.mem_filter.mp he).2

theorem exists_actor_iff_find (r : Router) (h : (r.actors.map (·.name)).Nodup) (m q : String) :
    (∃ a ∈ r.actors, a.name = m ∧ a.queue = q) ↔ ∃ a, r.find m = some a ∧ a.queue = q := by
  simp only [find_some_iff r h, and_assoc]

theorem memT_iff_find {r : Router} (h : RInv r) (m q : String) :
    memT r.tbq m q ↔ ∃ a, r.find m = some a ∧ a.queue = q :=
  (h.2.1 m q).trans (exists_actor_iff_find r h.1 m q)

/-- A registration adds the name under its queue to a table where the name stands under no other queue (the queue of
    the actor it replaces has been cleared of it) and the other names stand as before. -/
theorem setActor_tbq {r : Router} (h : RInv r) (a : Actor) :
    ∃ t, (r.setActor a).tbq = tbqAdd t a.queue a.name ∧ (∀ q, memT t a.name q → q = a.queue) ∧
      (∀ m q, m ≠ a.name → (memT t m q ↔ memT r.tbq m q)) ∧ ∀ e ∈ t, e.2 ≠ [] := by
  -- before, the name stands under the queue of the actor found under it, and nowhere else
  have hq (q) : memT r.tbq a.name q ↔ ∃ p, r.find a.name = some p ∧ p.queue = q := memT_iff_find h _ _
  rw [Router.setActor]
  cases hf : r.find a.name with
  | none =>
    refine ⟨r.tbq, rfl, fun q hm => ?_, fun _ _ _ => .rfl, h.2.2⟩
    simp [hq, hf] at hm
  | some p =>
    simp only [hf, Option.some.injEq, exists_eq_left'] at hq
    by_cases hpq : p.queue = a.queue
    · refine ⟨r.tbq, by simp [hpq], fun q hm => ?_, fun _ _ _ => .rfl, h.2.2⟩
      exact ((hq q).mp hm).symm.trans hpq
    · refine ⟨tbqDiscard r.tbq p.queue a.name, by simp [hpq], fun q hm => ?_, fun m q hm => ?_,
        tbqDiscard_nonempty _ _ _⟩
      · obtain ⟨hm, hn⟩ := (memT_discard ..).mp hm
        exact absurd ⟨rfl, ((hq q).mp hm).symm⟩ hn
      · rw [memT_discard, and_iff_left fun h => hm h.1]

theorem inv_setActor (r : Router) (a : Actor) (h : RInv r) : RInv (r.setActor a) := by
  have h1' : ((r.setActor a).actors.map (·.name)).Nodup := by
    simp only [Router.setActor, List.map_append, List.map_cons, List.map_nil]
    refine List.nodup_append.mpr ⟨h.1.sublist (List.filter_sublist.map _), by simp, ?_⟩
    intro x hx y hy
    obtain ⟨b, hb, rfl⟩ := List.mem_map.mp hx
    rw [List.mem_singleton.mp hy]
    simpa using (List.mem_filter.mp hb).2
  obtain ⟨t, ht, hname, hother, hne⟩ := setActor_tbq h a
  refine ⟨h1', fun m q => ?_, ht ▸ tbqAdd_nonempty t _ _ hne⟩
  rw [ht, memT_add, exists_actor_iff_find _ h1', find_setActor]
  by_cases hm : m = a.name
  · subst hm; simpa [eq_comm] using hname q
  · rw [if_neg (Ne.symm hm), hother m q hm, memT_iff_find h]; simp [hm]

theorem inv_foldl (l : List Actor) (r : Router) (h : RInv r) : RInv (l.foldl Router.setActor r) := by
  induction l generalizing r with
  | nil => exact h
  | cons a rest ih => exact ih _ (inv_setActor r a h)

theorem inv_empty : RInv {} := ⟨by simp, by simp [memT], by simp⟩

theorem worker_eq_build (routers : List Router) : worker routers = build (routers.flatMap (·.actors)) :=
  List.foldl_flatMap.symm

theorem inv_worker (routers : List Router) : RInv (worker routers) :=
  worker_eq_build routers ▸ inv_foldl _ _ inv_empty

theorem route_eq_some (w : Router) (topic queue : String) (f : Nat) :
    w.route topic queue = some f ↔ w.accepts topic queue = true ∧ ∃ a, w.find topic = some a ∧ a.fn = f := by
  rw [Router.route, Option.ite_none_right_eq_some, Option.map_eq_some_iff]

/-- a delivered message with topic `n` runs `actors[n]` -/
theorem executes_named_actor (w : Router) (topic queue : String) (f : Nat) (h : w.route topic queue = some f) :
    ∃ a, w.find topic = some a ∧ a.fn = f :=
  ((route_eq_some ..).mp h).2

theorem accepts_iff {w : Router} (h : RInv w) (topic queue : String) :
    w.accepts topic queue = true ↔ ∃ a, w.find topic = some a ∧ a.queue = queue := by
  rw [← memT_iff_find h]
  -- no topic set is empty, so the accept-everything branch of the consumer's filter is never taken
  simp only [Router.accepts, memT, List.any_eq_true, Bool.and_eq_true, beq_iff_eq, Bool.or_eq_true,
    List.isEmpty_iff, List.contains_iff_mem]
  exact exists_congr fun e => and_congr_right fun he => and_congr_right fun _ => or_iff_right (h.2.2 e he)

/-- **`serves_iff`**: for ANY set of routers with arbitrary (name, queue) registrations including overrides,
    a worker accepts a message (topic, queue) iff it has an actor registered under that name WHOSE queue is
    that queue — and then runs exactly that actor's function.  (Full statement after `fix:` 42c6068.) -/
theorem serves_iff (routers : List Router) (topic queue : String) :
    ((worker routers).accepts topic queue = true ↔
      ∃ a, (worker routers).find topic = some a ∧ a.queue = queue) ∧
    (∀ f, (worker routers).route topic queue = some f →
      ∃ a, (worker routers).find topic = some a ∧ a.queue = queue ∧ a.fn = f) := by
  have hacc := accepts_iff (inv_worker routers) topic queue
  refine ⟨hacc, fun f hr => ?_⟩
  obtain ⟨h, a, hf, hfn⟩ := (route_eq_some ..).mp hr
  obtain ⟨b, hb, hq⟩ := hacc.mp h
  cases hf.symm.trans hb
  exact ⟨a, hf, hq, hfn⟩

/-- no consumer of a worker has an empty topic set (an empty set would accept every topic) -/
theorem no_accept_all_consumer (routers : List Router) : ∀ e ∈ (worker routers).consumers, e.2 ≠ [] :=
  (inv_worker routers).2.2

theorem find_foldl (l : List Actor) (r : Router) (n : String) :
    (l.foldl Router.setActor r).find n = (l.reverse.find? (·.name == n)).or (r.find n) := by
  induction l generalizing r with
  | nil => rfl
  | cons a rest ih =>
    rw [List.foldl_cons, ih, find_setActor, List.reverse_cons, List.find?_append]
    by_cases hn : a.name = n <;> simp [hn]

/-- **`union_last_wins`**: registering / including in any order yields the right-biased union: the actor found
    under a name is the LAST registration of that name -/
theorem union_last_wins (regs : List Actor) (n : String) : (build regs).find n = lastReg regs n := by
  rw [build, find_foldl]; exact Option.or_none

/-! ### the broker side: messages of foreign topics are not touched (in-memory consumer) -/

open Mem

/-- `foreign_untouched`: a consumer polling with topic set `topics` never returns, dead-letters or removes a
    non-expired message whose topic it does not serve: the message is only rotated to the back — same content,
    still waiting, the multiset of waiting messages unchanged. -/
theorem foreign_untouched (q : Q) (now : Int) (topics : List String) (m : Msg) (rest : List Msg)
    (hs : q.simple = m :: rest) (hforeign : wants topics m = false) (hlive : m.params.isOverdue now = false) :
    (pollNormal q now topics).1 = none ∧
    (pollNormal q now topics).2.simple = rest ++ [m] ∧
    (pollNormal q now topics).2.dead = q.dead ∧
    (pollNormal q now topics).2.processing = q.processing := by
  simp [pollNormal, hs, hforeign, hlive]

/-- `not_blocked`: with `k` foreign messages in front of an own deliverable message, every failed poll brings
    the own message one position closer to the head; with nothing in front it is delivered (or expired): the
    worker is never blocked by messages it has no actor for (instance of `C05.poll_progress`). -/
theorem not_blocked (q : Q) (now : Int) (topics : List String) (x : Msg) (xs : List Msg)
    (hs : q.simple = x :: xs) (hw : ∃ y ∈ q.simple, wants topics y = true) :
    (C05.lead topics q.simple = 0 ∧ ((pollNormal q now topics).1 = some x ∨ x.params.isOverdue now = true)) ∨
    ((pollNormal q now topics).1 = none ∧
      C05.lead topics (pollNormal q now topics).2.simple + 1 = C05.lead topics q.simple) :=
  C05.poll_progress q now topics x xs hs hw

/-- Refutation of "never blocks … those messages stay available to other workers" under an adversarial
    schedule on the current in-memory broker: two consumers with disjoint topic sets on one queue that
    poll alternately rotate each other's message to the head for ever — after one poll of each the queue
    is back in the same state and nothing was delivered (a livelock; real-time jitter eventually breaks it). -/
theorem rotation_livelock_witness :
    let x1 : Msg := { id := "x1", topic := "a" }
    let x2 : Msg := { id := "x2", topic := "c" }
    let q : Q := { simple := [x1, x2] }
    let rA := pollNormal q 0 ["c"]            -- consumer A serves topic c
    let rB := pollNormal rA.2 0 ["a"]         -- consumer B serves topic a
    rA.1 = none ∧ rB.1 = none ∧ rB.2 = q := by
  decide

end Repid.C11
