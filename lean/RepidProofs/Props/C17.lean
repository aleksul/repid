/-
C17 — Middleware only observes.
Model: RepidModel/Mw/Wrapper.lean.
-/
import RepidModel.Mw.Wrapper

namespace Repid.C17
open Mw

mutual
/-- The wrapper's one test, `inside || !emitter`: where it holds nothing is emitted, and since the flag and the
    emitter are handed down unchanged it holds all the way down the operation tree. -/
theorem silent (emitter inside : Bool) (h : (inside || !emitter) = true) : ∀ o : Op, run emitter inside o = []
  | .mk _ _ _ _ children _ _ => by rw [run, if_pos h]; exact silent_all emitter inside h children
theorem silent_all (emitter inside : Bool) (h : (inside || !emitter) = true) :
    ∀ os : List Op, runAll emitter inside os = []
  | [] => rfl
  | o :: rest => by rw [runAll, silent emitter inside h o, silent_all emitter inside h rest]; rfl
end

/-- `nested_silent`: inside another wrapped operation nothing is emitted, whatever the operation tree -/
theorem nested_silent (emitter : Bool) : ∀ o : Op, run emitter true o = [] := silent emitter true rfl

theorem nested_silent_all (emitter : Bool) : ∀ os : List Op, runAll emitter true os = [] :=
  silent_all emitter true rfl

/-- `signal_shape`: a top-level wrapped operation emits exactly one `before` signal and — iff it succeeds —
    exactly one `after` signal carrying its result; the operations nested inside it emit nothing.  For EVERY
    operation tree (any nesting depth and fan-out). -/
theorem signal_shape (name : String) (params args : List String) (kwargs : List (String × String))
    (children : List Op) (raises : Bool) (result : String) :
    run true false (.mk name params args kwargs children raises result) =
      [{ name := "before_" ++ name, kwargs := signalKwargs (.mk name params args kwargs children raises result) }] ++
      (if raises then []
       else [{ name := "after_" ++ name,
               kwargs := dictUpdate (signalKwargs (.mk name params args kwargs children raises result)) [("result", result)] }]) := by
  simp [run, nested_silent_all]

/-- without an emitter (a broker that is not part of a Connection) nothing is emitted at any depth -/
theorem no_emitter_silent : ∀ (inside : Bool) (o : Op), run false inside o = [] :=
  fun inside => silent false inside (Bool.or_true inside)

theorem dictUpdate_fresh (d : List (String × String)) (ps as : List String)
    (hfresh : ∀ p ∈ ps, ¬ d.any (·.1 == p) = true) (hn : ps.Nodup) :
    dictUpdate d (ps.zip as) = d ++ ps.zip as := by
  unfold List.zip
  fun_induction List.zipWith generalizing d with
  | case1 p ps a as ih =>
    rw [List.nodup_cons] at hn
    rw [dictUpdate, if_neg (hfresh p List.mem_cons_self), ih _ ?_ hn.2, List.append_assoc]; rfl
    intro q hq
    rw [List.any_append, Bool.or_eq_true, not_or]
    refine ⟨hfresh q (List.mem_cons_of_mem _ hq), ?_⟩
    simpa using fun h : p = q => hn.1 (h ▸ hq)
  | case2 => exact (List.append_nil d).symm -- one of the lists is empty

/-- `args_by_name`: positional arguments appear in the signal under the operation's parameter names;
    keyword arguments under their own names (positional binding wins on a clash, as `dict.update` does) -/
theorem args_by_name_positional (name : String) (params args : List String) (children : List Op)
    (raises : Bool) (result : String) (hnd : params.Nodup) (hlen : args.length ≤ params.length) :
    signalKwargs (.mk name params args [] children raises result) = params.zip args :=
  (dictUpdate_fresh [] params args (fun _ _ => Bool.false_ne_true) hnd).trans (List.nil_append _)

theorem args_by_name_keyword (name : String) (params : List String) (kwargs : List (String × String))
    (children : List Op) (raises : Bool) (result : String) :
    signalKwargs (.mk name params [] kwargs children raises result) = kwargs := by
  simp [signalKwargs, dictUpdate]

/-- `non_interference`: the outcome of an operation (its result or its exception) is a function of the
    operation alone — the set of subscribers, what they return and which `Exception`s they raise are not
    inputs of `outcome`; a subscriber only ever sees the arguments its own parameters name. -/
theorem subscriber_sees_only_named (params : List String) (kw : List (String × String)) :
    ∀ e ∈ subscriberKwargs params kw, e.1 ∈ params ∧ e ∈ kw := by
  intro e he
  have := List.mem_filter.mp he
  exact ⟨by simpa using this.2, this.1⟩

/-- `routing`: the `actor_run` signals of a processor go to the middleware of that processor's own connection,
    however many processors (of whatever connections) were created before or after it -/
theorem routing_own_connection (conns : List Nat) (i : Nat) (h : i < conns.length) :
    actorRunEmitter conns i = some conns[i] := by
  simp [actorRunEmitter, h]

/-- the repaired defect, kept as a witness: with one shared class-level wrapper the first of two processors of
    different connections sends its `actor_run` signals to the other connection -/
theorem shared_emitter_misroutes_witness :
    actorRunEmitterShared [1, 2] 0 = some 2 ∧ actorRunEmitter [1, 2] 0 = some 1 := by decide

-- Non-vacuity: requeue → (ack, enqueue) emits exactly before/after_requeue.
example :
    let ack := Op.mk "ack" ["key"] ["k1"] [] [] false "None"
    let enq := Op.mk "enqueue" ["key", "payload", "params"] ["k1", "p", "P"] [] [] false "None"
    let rq := Op.mk "requeue" ["key", "payload", "params"] ["k1"] [("params", "P"), ("payload", "p")] [ack, enq] false "None"
    (run true false rq).map (·.name) = ["before_requeue", "after_requeue"] ∧
    signalKwargs rq = [("params", "P"), ("payload", "p"), ("key", "k1")] :=
  ⟨rfl, rfl⟩

end Repid.C17
