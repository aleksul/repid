/-
C01 on the Redis broker — conservation over EVERY history of well-behaved clients.
Model: RepidModel/Broker/Redis.lean; counting lemmas: Proofs/RedisCount.lean.
A message's places are the queues it waits in plus the times it is held; what each primitive of the model does to these
two numbers is a rewriting rule, and the effect of an operation is computed with them.  The three queues are counted as
one list (`queued`), so that a primitive is one permutation fact and no sum of three has to be rearranged.
-/
import RepidProofs.Props.Redis

namespace Repid.RedisProofs
open Redis

-- per-key counters; no theorem is about them (the theorems count by short name, below)
abbrev K := Nat × String

def nN (r : R) (k : K) : Nat := r.normal.count k
def nD (r : R) (k : K) : Nat := (r.delayed.filter (·.1 == k)).length
def nX (r : R) (k : K) : Nat := r.dead.count k
def nP (r : R) (k : K) : Nat := (r.processing.filter (·.1 == k.2)).length

/-- number of places a message is in: waiting, delayed, dead-lettered, held -/
def total (r : R) (k : K) : Nat := nN r k + nD r k + nX r k + nP r k

/-! ### places by short name (`topic:id` — the message's identity under the "distinct ids" guard) -/

def sN (r : R) (sh : String) : Nat := (r.normal.filter (·.2 == sh)).length
def sD (r : R) (sh : String) : Nat := (r.delayed.filter (·.1.2 == sh)).length
def sX (r : R) (sh : String) : Nat := (r.dead.filter (·.2 == sh)).length
def sP (r : R) (sh : String) : Nat := (r.processing.filter (·.1 == sh)).length
def places (r : R) (sh : String) : Nat := sN r sh + sD r sh + sX r sh + sP r sh

inductive Op where
  | enqueue (k : Key) (payload : String) (p : Params) (now : Int)
  | take (cat : Marker) (k : Key) (nowSec : Int)
  | ack (k : Key)
  | nack (k : Key)
  | reject (k : Key) (now : Int)
  | requeue (k : Key) (payload : String) (p : Params) (now : Int)

def Op.short : Op → String
  | .enqueue k .. => k.short | .take _ k _ => k.short | .ack k => k.short | .nack k => k.short
  | .reject k _ => k.short | .requeue k .. => k.short

/-- number of places of the message after the operation -/
def Op.after : Op → Nat
  | .ack _ => 0
  | _ => 1

def step (cron : String → Int → Int) (r : R) : Op → R
  | .enqueue k pl p now => enqueueTx r k pl p now cron
  | .take cat k ns => takeTx r cat k.prio k.short ns
  | .ack k => ackTx r k
  | .nack k => nackTx r k
  | .reject k now => reject r k now cron
  | .requeue k pl p now => requeueTx r k pl p now cron

/-- a well-behaved client: distinct ids (an id is enqueued only while it is in no place); a consumer takes what waits
    in the category it reads and nobody holds; terminal calls only on a message that is held -/
def StepOk (r : R) : Op → Prop
  | .enqueue k .. => places r k.short = 0
  | .take cat k _ => sP r k.short = 0 ∧
      (match cat with
       | .n => (k.prio, k.short) ∈ r.normal
       | .d => (k.prio, k.short) ∈ r.delayed.map (·.1)
       | .dead => (k.prio, k.short) ∈ r.dead)
  | .ack k => sP r k.short = 1
  | .nack k => sP r k.short = 1
  | .reject k _ => sP r k.short = 1
  | .requeue k .. => sP r k.short = 1

instance (r : R) (op : Op) : Decidable (StepOk r op) := by
  cases op with
  | take cat k ns => cases cat <;> (simp only [StepOk]; infer_instance)
  | enqueue k pl p now => simp only [StepOk]; infer_instance
  | ack k => simp only [StepOk]; infer_instance
  | nack k => simp only [StepOk]; infer_instance
  | reject k now => simp only [StepOk]; infer_instance
  | requeue k pl p now => simp only [StepOk]; infer_instance

def Inv (r : R) : Prop := ∀ sh, places r sh ≤ 1

/-- the names that wait, with their priorities: normal list, members of the delayed set, dead letters -/
def queued (r : R) : List (Nat × String) := r.normal ++ (r.delayed.map (·.1) ++ r.dead)

def waiting (r : R) (sh : String) : Nat := ((queued r).filter (·.2 == sh)).length

theorem waiting_eq (r : R) (sh : String) : waiting r sh = sN r sh + sD r sh + sX r sh := by
  simp only [waiting, queued, List.filter_append, List.length_append, List.filter_map, List.length_map,
    Nat.add_assoc]
  rfl

theorem places_eq (r : R) (sh : String) : places r sh = waiting r sh + sP r sh := by
  rw [places, waiting_eq]

theorem Inv.not_waiting {r : R} (hinv : Inv r) {sh : String} (h : sP r sh = 1) : waiting r sh = 0 := by
  have := hinv sh
  rw [places_eq, h] at this
  exact Nat.lt_one_iff.mp this

theorem sD_le_waiting (r : R) (sh : String) : sD r sh ≤ waiting r sh := by
  rw [waiting_eq]
  omega

/-! ### what each primitive does to `waiting` and `sP`, for every short name

`waiting_put` and `sP_takeTx` hold under a condition: ZADD of a member that is already there changes its score and adds
nothing.  `simp` rewrites with them where it can prove the condition from the facts it is given (in `step_places`: `h0`,
`hw`), after `waiting_setHash` has taken the hash updates out of the state the condition speaks of. -/

@[simp] theorem waiting_setHash (r : R) (kk : Nat × String) (h : Hash) (sh : String) :
    waiting (setHash r kk h) sh = waiting r sh :=
  setHash_frame (waiting · sh) (fun _ _ => rfl) r kk h

@[simp] theorem sP_setHash (r : R) (kk : Nat × String) (h : Hash) (sh : String) : sP (setHash r kk h) sh = sP r sh :=
  setHash_frame (sP · sh) (fun _ _ => rfl) r kk h

@[simp] theorem waiting_put (r : R) (k : Key) (score : Option Int) (inFront : Bool) (sh : String)
    (h : waiting r k.short = 0) :
    waiting (put r k score inFront) sh = waiting r sh + if sh = k.short then 1 else 0 := by
  refine named_perm Prod.snd (a := (k.prio, k.short)) ?_ sh
  fun_cases put with
  | case1 => exact (List.perm_append_singleton _ _).append_right _   -- RPUSH
  | case2 => exact .refl _                                            -- LPUSH
  | case3 s =>                                                        -- ZADD
    have h0 : sD r k.short = 0 := Nat.le_zero.mp (h ▸ sD_le_waiting r _)
    have hz := zadd_perm Prod.snd (m := (k.prio, k.short)) s h0
    exact perm_cons_append ((hz.map Prod.fst).append_right _)

@[simp] theorem sP_put (r : R) (k : Key) (score : Option Int) (inFront : Bool) (sh : String) :
    sP (put r k score inFront) sh = sP r sh := by
  fun_cases put <;> rfl

@[simp] theorem waiting_markDead (r : R) (k : Key) (sh : String) :
    waiting (markDead r k) sh = waiting r sh + if sh = k.short then 1 else 0 :=
  named_perm Prod.snd (perm_cons_append (perm_cons_append (.refl _))) sh

@[simp] theorem sP_markDead (r : R) (k : Key) (sh : String) : sP (markDead r k) sh = sP r sh := rfl

@[simp] theorem waiting_unmark (r : R) (k : Key) (sh : String) : waiting (unmark r k) sh = waiting r sh := by
  simp only [waiting, queued, unmark_lists]

@[simp] theorem sP_unmark (r : R) (k : Key) (sh : String) : sP (unmark r k) sh = if sh = k.short then 0 else sP r sh := by
  rw [sP, unmark, normHash_processing, setHash_processing]
  exact zrem_filter_key

@[simp] theorem waiting_ackTx (r : R) (k : Key) (sh : String) : waiting (ackTx r k) sh = waiting r sh := rfl

@[simp] theorem sP_ackTx (r : R) (k : Key) (sh : String) : sP (ackTx r k) sh = if sh = k.short then 0 else sP r sh :=
  zrem_filter_key

@[simp] theorem sP_takeTx (r : R) (cat : Marker) (prio : Nat) (short : String) (ns : Int) (sh : String)
    (h : sP r short = 0) : sP (takeTx r cat prio short ns) sh = sP r sh + if sh = short then 1 else 0 := by
  rw [sP, takeTx_processing]
  exact named_perm Prod.fst (zadd_perm id ns h) sh

/-- what the take removes from the queue it reads is one entry — of the delayed set too, because the message is in
    no more than one place -/
theorem waiting_takeTx {r : R} {cat : Marker} {prio : Nat} {short : String} (hle : waiting r short ≤ 1)
    (hsrc : match cat with
      | .n => (prio, short) ∈ r.normal
      | .d => (prio, short) ∈ r.delayed.map (·.1)
      | .dead => (prio, short) ∈ r.dead) (ns : Int) (sh : String) :
    waiting (takeTx r cat prio short ns) sh = if sh = short then 0 else waiting r sh := by
  refine named_perm_once Prod.snd (a := (prio, short)) ?_ hle sh
  cases cat <;> simp only [takeTx, queued, setHash_normal, setHash_delayed, setHash_dead]
  · exact (lremLast_perm hsrc).append_right _
  · exact perm_cons_append ((zrem_perm Prod.snd hsrc (Nat.le_trans (sD_le_waiting r short) hle)).append_right _)
  · exact perm_cons_append (perm_cons_append (lremLast_perm hsrc))

theorem sP_reject_other (r : R) (k : Key) (now : Int) (cron : String → Int → Int) {sh : String} (hne : sh ≠ k.short) :
    sP (reject r k now cron) sh = sP r sh := by
  fun_cases reject
  · fun_cases rejectTx <;> simp only [sP_unmark, if_neg hne, sP_markDead, sP_put]
  · rfl

/-- `step_places`: one operation of a well-behaved client changes the number of places of its own message to
    `after` (0 for ack, 1 otherwise) and of no other message -/
theorem step_places (cron : String → Int → Int) (r : R) (op : Op) (hinv : Inv r) (hok : StepOk r op) (sh : String) :
    places (step cron r op) sh = if sh = op.short then op.after else places r sh := by
  cases op with
  | enqueue k pl p now =>
    have h0 : waiting r k.short = 0 ∧ sP r k.short = 0 := Nat.add_eq_zero_iff.mp ((places_eq ..).symm.trans hok)
    by_cases hs : sh = k.short <;> simp [step, enqueueTx, Op.short, Op.after, places_eq, hs, h0]
  | take cat k ns =>
    have hle : waiting r k.short ≤ 1 := Nat.le_trans (Nat.le_add_right ..) (places_eq .. ▸ hinv k.short)
    have h0 : sP r k.short = 0 := hok.1
    by_cases hs : sh = k.short <;> simp [step, Op.short, Op.after, places_eq, waiting_takeTx hle hok.2, hs, h0]
  | ack k =>
    have hw := hinv.not_waiting hok
    by_cases hs : sh = k.short <;> simp [step, Op.short, Op.after, places_eq, hs, hw]
  | nack k =>
    have hw := hinv.not_waiting hok
    by_cases hs : sh = k.short <;> simp [step, nackTx, Op.short, Op.after, places_eq, hs, hw]
  | reject k now =>
    have hw := hinv.not_waiting hok
    have h1 : sP r k.short = 1 := hok
    simp only [step, Op.short, Op.after]
    fun_cases reject
    · -- `rejectTx`: dead-lettered or put back, then no longer held
      fun_cases rejectTx <;> by_cases hs : sh = k.short <;> simp [places_eq, hs, hw]
    · -- no data or no take marker: nothing changes, the message stays held
      by_cases hs : sh = k.short <;> simp [places_eq, hs, hw, h1]
  | requeue k pl p now =>
    have hw := hinv.not_waiting hok
    by_cases hs : sh = k.short <;> simp [step, requeueTx, Op.short, Op.after, places_eq, hs, hw]

theorem inv_step (cron : String → Int → Int) (r : R) (op : Op) (hinv : Inv r) (hok : StepOk r op) : Inv (step cron r op) := by
  intro sh
  rw [step_places cron r op hinv hok sh]
  split
  · fun_cases Op.after <;> decide
  · exact hinv sh

def runOps (cron : String → Int → Int) (r : R) : List Op → R
  | [] => r
  | op :: rest => runOps cron (step cron r op) rest

def StepsOk (cron : String → Int → Int) (r : R) : List Op → Prop
  | [] => True
  | op :: rest => StepOk r op ∧ StepsOk cron (step cron r op) rest

/-- `redis_conservation`: after ANY finite history of enqueue / take (any category) / ack / nack / reject / requeue by
    well-behaved clients, every message is in at most one place — waiting, delayed, held or dead-lettered — and (by
    `step_places`) a message's number of places changes only by its own operations: to 0 by ack, to 1 by every other -/
theorem redis_conservation (cron : String → Int → Int) : ∀ (ops : List Op) (r : R), Inv r → StepsOk cron r ops →
    Inv (runOps cron r ops) := by
  intro ops r
  fun_induction runOps with
  | case1 => exact fun h _ => h
  | case2 r op rest ih => exact fun hinv hok => ih (inv_step cron r op hinv hok.1) hok.2

theorem inv_empty : Inv {} := fun _ => Nat.zero_le 1

-- non-vacuity: a history that satisfies the guard at every step
example : StepOk {} (.enqueue ⟨5, "t", "a"⟩ "" {} 0) ∧
    StepOk (step (fun _ t => t) {} (.enqueue ⟨5, "t", "a"⟩ "" {} 0)) (.take .n ⟨5, "t", "a"⟩ 0) ∧
    StepOk (step (fun _ t => t) (step (fun _ t => t) {} (.enqueue ⟨5, "t", "a"⟩ "" {} 0)) (.take .n ⟨5, "t", "a"⟩ 0))
      (.reject ⟨5, "t", "a"⟩ 0) := by decide

end Repid.RedisProofs
