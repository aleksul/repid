/-
How the server-side primitives of the Redis model change a list, up to order: LPUSH, RPUSH, ZADD of a new member give
it one entry more, `LREM key -1 v` (`List.erase` at the other end of the list) and ZREM of a member whose name occurs
once one entry less (`lremLast_perm`, `zadd_perm`, `zrem_perm`); `named_perm` then counts the entries under a name
(`named_perm_once` where an entry was taken away).
-/
import RepidModel.Broker.Redis

namespace Repid.RedisProofs
open Redis

theorem named_perm {β ν : Type} [DecidableEq ν] (f : β → ν) {a : β} {l l' : List β} (h : l'.Perm (a :: l))
    (sh : ν) :
    (l'.filter (f · == sh)).length = (l.filter (f · == sh)).length + if sh = f a then 1 else 0 := by
  rw [(h.filter _).length_eq, List.filter_cons]
  by_cases hs : sh = f a
  · simp [hs]
  · simp [hs, Ne.symm hs]

/-- the same, seen from the list that lost the entry: if its name occurred once, none is left under that name -/
theorem named_perm_once {β ν : Type} [DecidableEq ν] (f : β → ν) {a : β} {l l' : List β} (h : l.Perm (a :: l'))
    (h1 : (l.filter (f · == f a)).length ≤ 1) (sh : ν) :
    (l'.filter (f · == sh)).length = if sh = f a then 0 else (l.filter (f · == sh)).length := by
  have := named_perm f h sh
  by_cases hs : sh = f a
  · subst hs
    rw [if_pos rfl] at this ⊢
    rw [this] at h1
    exact Nat.lt_one_iff.mp h1
  · rw [if_neg hs] at this ⊢
    exact this.symm

theorem perm_cons_append {β : Type} {a : β} {l₁ l₂ l₂' : List β} (h : l₂.Perm (a :: l₂')) :
    (l₁ ++ l₂).Perm (a :: (l₁ ++ l₂')) :=
  (h.append_left l₁).trans List.perm_middle

theorem lremLast_eq_erase {α : Type} [BEq α] (l : List α) (v : α) : lremLast l v = (l.reverse.erase v).reverse := by
  have go : ∀ l : List α, lremLast.go v l = l.erase v := by
    intro l
    induction l with
    | nil => rfl
    | cons x rest ih => rw [lremLast.go, List.erase_cons, ih]
  rw [lremLast, go]

theorem lremLast_count_self {α : Type} [BEq α] [LawfulBEq α] (l : List α) (v : α) :
    (lremLast l v).count v = l.count v - 1 := by
  simp [lremLast_eq_erase]

theorem lremLast_count_other {α : Type} [BEq α] [LawfulBEq α] (l : List α) (v w : α) (hne : w ≠ v) :
    (lremLast l v).count w = l.count w := by
  simp [lremLast_eq_erase, hne]

theorem zadd_mem {α : Type} [BEq α] {z : List (α × Int)} {m : α} {s : Int} : (m, s) ∈ zadd z m s := by
  fun_cases zadd with
  | case1 h =>
    obtain ⟨e, he, hm⟩ := List.any_eq_true.mp h
    exact List.mem_map.mpr ⟨e, he, if_pos hm⟩
  | case2 => exact List.mem_append_right _ (List.mem_singleton_self _)

variable {α ν : Type} [BEq α] [LawfulBEq α] [DecidableEq ν]

theorem lremLast_perm {l : List α} {v : α} (h : v ∈ l) : l.Perm (v :: lremLast l v) := by
  rw [lremLast_eq_erase]
  exact (List.reverse_perm l).symm.trans
    ((List.perm_cons_erase (List.mem_reverse.mpr h)).trans ((List.reverse_perm _).symm.cons v))

/-- only a member that is not there yet is added; `h` says so by name, which is what the callers know -/
theorem zadd_perm (g : α → ν) {z : List (α × Int)} {m : α} (s : Int) (h : (z.filter (g ·.1 == g m)).length = 0) :
    (zadd z m s).Perm ((m, s) :: z) := by
  fun_cases zadd with
  | case1 ha =>
    -- the member is there and would only get the new score: `h` excludes it
    obtain ⟨e, he, hm⟩ := List.any_eq_true.mp ha
    have hnone := List.filter_eq_nil_iff.mp (List.length_eq_zero_iff.mp h) e he
    exact absurd (beq_iff_eq.mpr (congrArg g (eq_of_beq hm))) hnone
  | case2 => exact List.perm_append_singleton _ _

theorem zrem_not_mem {z : List (α × Int)} {m : α} {s : Int} : (m, s) ∉ zrem z m := by
  simp [zrem]

theorem zrem_perm (g : α → ν) {z : List (α × Int)} {m : α} (hm : m ∈ z.map (·.1))
    (h1 : (z.filter (g ·.1 == g m)).length ≤ 1) : (z.map (·.1)).Perm (m :: (zrem z m).map (·.1)) := by
  have hc : (z.map (·.1)).count m = 1 := by
    refine Nat.le_antisymm (Nat.le_trans ?_ h1) (List.count_pos_iff.mpr hm)
    rw [List.count_eq_countP, List.countP_map, ← List.countP_eq_length_filter]
    exact List.countP_mono_left fun x _ hx => beq_iff_eq.mpr (congrArg g (eq_of_beq hx))
  -- so `m` occurs once among the members: those equal to it are `[m]` (`filter_beq`), the others what ZREM leaves
  have := List.filter_append_perm (· == m) (z.map (·.1))
  rw [List.filter_beq, hc, List.filter_map] at this
  exact this.symm

/-- where the member is the name (`processing`) -/
theorem zrem_filter_key {κ : Type} [DecidableEq κ] {z : List (κ × Int)} {m a : κ} :
    ((zrem z m).filter (·.1 == a)).length = if a = m then 0 else (z.filter (·.1 == a)).length := by
  rw [zrem, List.filter_filter]
  by_cases ha : a = m
  · subst a; simp
  · -- an entry under another name is not the member's
    rw [if_neg ha]
    congr 1
    apply List.filter_congr
    intro e _
    by_cases he : e.1 = a
    · simp [he, ha]
    · simp [he]

end Repid.RedisProofs
