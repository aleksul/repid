/-
`mapE`, `mapNamed`, `mapIdxNamed`, `lookup`, `hasKey` of the argument-binding model.
A successful `mapE f l` is `l.map h` for a function `h` whose values `f` returns on `l` (`mapE_eq_ok`), a
successful `mapNamed g l` is `l.map fun p => (p.name, h p)` (`mapNamed_eq_ok`): what is then asked about the
result (its length, its entries, its names, a lookup in it) is a question about `List.map`.  `mapNamed g l` is
`mapE g l` with the names zipped on (`mapNamed_eq_zip`), which carries failures over as well.
-/
import RepidModel.Conv.Bind

namespace Repid.Conv

-- core has no such instance; the `decide` witnesses of C08 compare results of `basicCall` / `spec`
instance exceptDecEq {ε α : Type} [DecidableEq ε] [DecidableEq α] : DecidableEq (Except ε α)
  | .ok a, .ok b => if h : a = b then isTrue (h ▸ rfl) else isFalse (fun h' => by cases h'; exact h rfl)
  | .error a, .error b => if h : a = b then isTrue (h ▸ rfl) else isFalse (fun h' => by cases h'; exact h rfl)
  | .ok _, .error _ => isFalse (fun h => by cases h)
  | .error _, .ok _ => isFalse (fun h => by cases h)

theorem mapE_append {α β : Type} (f : α → Except Err β) (a b : List α) :
    mapE f (a ++ b) =
      match mapE f a with
      | .error e => .error e
      | .ok xs => match mapE f b with
        | .error e => .error e
        | .ok ys => .ok (xs ++ ys) := by
  induction a with
  | nil => rw [List.nil_append]; cases mapE f b <;> rfl
  | cons x rest ih =>
    rw [List.cons_append, mapE, mapE, ih]
    cases f x with
    | error e => rfl
    | ok y =>
      cases mapE f rest with
      | error e => rfl
      | ok xs => cases mapE f b <;> rfl

theorem mapE_congr {α β : Type} (f g : α → Except Err β) (l : List α) (h : ∀ a ∈ l, f a = g a) :
    mapE f l = mapE g l := by
  induction l with
  | nil => rfl
  | cons x rest ih =>
    rw [mapE, mapE, h x List.mem_cons_self, ih fun a ha => h a (List.mem_cons_of_mem _ ha)]

theorem mapE_pure {α β : Type} (h : α → β) (l : List α) : mapE (fun a => .ok (h a)) l = .ok (l.map h) := by
  induction l with
  | nil => rfl
  | cons a l ih => rw [mapE, ih]; rfl

theorem mapE_eq_ok {α β : Type} [Inhabited β] {f : α → Except Err β} {l : List α} {r : List β} :
    mapE f l = .ok r ↔ ∃ h : α → β, (∀ a ∈ l, f a = .ok (h a)) ∧ r = l.map h := by
  refine ⟨fun hr => ?_, fun ⟨h, hh, hr⟩ => hr ▸ (mapE_congr f _ l hh).trans (mapE_pure h l)⟩
  let h (a : α) : β := match f a with | .ok b => b | .error _ => default
  have hh : ∀ a ∈ l, f a = .ok (h a) := by
    fun_induction mapE generalizing r with
    | case1 => nofun
    | case4 a l b ha bs hl ih => exact List.forall_mem_cons.2 ⟨by simp only [h, ha], ih hl⟩
    | _ => cases hr
  exact ⟨h, hh, Except.ok.inj (hr.symm.trans ((mapE_congr f _ l hh).trans (mapE_pure h l)))⟩

theorem mapNamed_eq_zip (g : P → Except Err V) (l : List P) :
    mapNamed g l = match mapE g l with
      | .error e => .error e
      | .ok vs => .ok ((l.map (·.name)).zip vs) := by
  induction l with
  | nil => rfl
  | cons x rest ih =>
    rw [mapNamed, mapE, ih]
    cases g x with
    | error e => rfl
    | ok y => cases mapE g rest <;> rfl

theorem mapNamed_eq_ok {g : P → Except Err V} {l : List P} {r : List (String × V)} :
    mapNamed g l = .ok r ↔ ∃ h : P → V, (∀ p ∈ l, g p = .ok (h p)) ∧ r = l.map fun p => (p.name, h p) := by
  rw [mapNamed_eq_zip]
  constructor
  · intro hr
    cases hm : mapE g l with
    | error e => rw [hm] at hr; cases hr
    | ok vs =>
      rw [hm] at hr; cases hr
      obtain ⟨h, hh, rfl⟩ := mapE_eq_ok.1 hm
      exact ⟨h, hh, List.zip_map'⟩
  · rintro ⟨h, hh, rfl⟩
    rw [mapE_eq_ok.2 ⟨h, hh, rfl⟩]
    exact congrArg _ List.zip_map'

theorem mapNamed_append (g : P → Except Err V) (a b : List P) :
    mapNamed g (a ++ b) =
      match mapNamed g a with
      | .error e => .error e
      | .ok xs => match mapNamed g b with
        | .error e => .error e
        | .ok ys => .ok (xs ++ ys) := by
  simp only [mapNamed_eq_zip, mapE_append]
  cases ha : mapE g a with
  | error e => rfl
  | ok xs =>
    cases mapE g b with
    | error e => rfl
    | ok ys =>
      obtain ⟨h, -, rfl⟩ := mapE_eq_ok.1 ha
      have hlen : (a.map (·.name)).length = (a.map h).length := by rw [List.length_map, List.length_map]
      simp only [List.map_append, List.zip_append hlen]

theorem mapNamed_congr (f g : P → Except Err V) (l : List P) (h : ∀ a ∈ l, f a = g a) :
    mapNamed f l = mapNamed g l := by
  rw [mapNamed_eq_zip, mapNamed_eq_zip, mapE_congr f g l h]

theorem mapIdxNamed_eq {f : Nat → P → Except Err V} (g : P → Except Err V) {l : List P} (k : Nat)
    (h : ∀ i a, l[i]? = some a → f (k + i) a = g a) : mapIdxNamed f k l = mapNamed g l := by
  induction l generalizing k with
  | nil => rfl
  | cons x rest ih =>
    rw [mapIdxNamed, mapNamed, ← h 0 x rfl, ih (k + 1) fun i a hi => by
      rw [Nat.add_assoc, Nat.add_comm 1 i]; exact h (i + 1) a hi]
    rfl

theorem lookup_append (k : String) (a b : List (String × V)) :
    lookup k (a ++ b) = (lookup k a).or (lookup k b) := by
  fun_induction lookup k a <;> simp [lookup, *]

theorem lookup_none {k : String} {l : List (String × V)} (h : k ∉ l.map (·.1)) : lookup k l = none := by
  fun_induction lookup with
  | case1 => rfl
  | case2 v rest => exact absurd List.mem_cons_self h
  | case3 a v rest _ ih => exact ih fun hm => h (List.mem_cons_of_mem _ hm)

theorem lookup_filter_map {l : List P} (hnd : (l.map (·.name)).Nodup) (c : P → Bool) (f : P → V) {p : P}
    (hp : p ∈ l) : lookup p.name ((l.filter c).map fun q => (q.name, f q)) = if c p then some (f p) else none := by
  fun_induction List.filter with
  | case1 => cases hp
  | case2 x rest hc ih =>
    -- `x` is kept
    rw [List.map_cons, List.nodup_cons] at hnd
    rw [List.map_cons, lookup]
    rcases List.mem_cons.1 hp with rfl | hp
    · rw [if_pos rfl, if_pos hc]
    · have hne : x.name ≠ p.name := fun he => hnd.1 (he ▸ List.mem_map_of_mem hp)
      rw [if_neg hne, ih hnd.2 hp]
  | case3 x rest hc ih =>
    -- `x` is dropped: if it is `p`, no later entry has its name
    rw [List.map_cons, List.nodup_cons] at hnd
    rcases List.mem_cons.1 hp with rfl | hp
    · rw [if_neg (Bool.eq_false_iff.1 hc)]
      refine lookup_none fun hm => hnd.1 ?_
      rw [List.map_map] at hm
      exact (List.filter_sublist.map _).subset hm
    · exact ih hnd.2 hp

theorem hasKey_iff {k : String} {l : List (String × V)} : hasKey k l = true ↔ k ∈ l.map (·.1) := by
  simp only [hasKey, List.any_eq_true, List.mem_map, beq_iff_eq]

end Repid.Conv
