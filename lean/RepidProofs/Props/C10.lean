/-
C10 — messages_limit is an upper bound and a stop condition.
Model: RepidModel/Worker/Runner.lean.  On the current code the upper-bound clause is FALSE (the
limit is only evaluated in the done-callback of a task): see `overshoot_witness`.
-/
import RepidProofs.Proofs.RunnerStep
import RepidProofs.Props.C09

namespace Repid.C10
open Runner

theorem afterDone_stop (x : R) (M : Nat) (hm : x.maxTasks = some M) (hp : M ≤ x.processed + 1) :
    (afterDone x).stop = true := by
  have : M ≤ x.processed + 1 + (x.limit - x.free) := by omega
  simp [afterDone_eq, maxTasksHit, busy, hm, this]

theorem step_maxTasks (r : R) (e : Ev) : (step r e).maxTasks = r.maxTasks := by
  obtain ⟨x, h | h, -, hm, -⟩ := step_frame r e <;> simpa only [h, afterDone_eq] using hm

/-- the stop flag is never cleared by the runner -/
theorem step_stop_mono (r : R) (e : Ev) (h : r.stop = true) : (step r e).stop = true := by
  obtain ⟨x, hx | hx, -, -, hs, -⟩ := step_frame r e <;> simp only [hx, afterDone_eq, hs, h, Bool.true_or]

/-- `stops_after_M_finished`: as soon as M executions have finished the stop flag is set — for every
    event sequence, tasks_limit and number of queues. -/
theorem stops_after_M_finished (limit M : Nat) (evs : List Ev) :
    let r := run (init limit (some M)) evs
    0 < r.processed → M ≤ r.processed → r.stop = true := by
  -- the claim speaks of `maxTasks`, `processed` and `stop` only, and those are written only by the
  -- done-callback (`step_frame`), which evaluates the limit (`afterDone_stop`)
  refine (run_induction (P := fun r => r.maxTasks = some M ∧
    (0 < r.processed → M ≤ r.processed → r.stop = true)) ?_ evs _ ⟨rfl, fun h => (Nat.lt_irrefl 0 h).elim⟩).2
  intro r e ⟨hm, h⟩
  refine ⟨(step_maxTasks r e).trans hm, ?_⟩
  obtain ⟨x, hx | hx, -, hxm, hxs, hxp⟩ := step_frame r e <;> rw [hx]
  · rwa [hxs, hxp]
  · exact fun _ hM => afterDone_stop x M (hxm.trans hm) (by simpa only [afterDone_eq] using hM)

/-- before the stop flag is set fewer than M executions have finished (M ≥ 1) -/
theorem processed_lt_M_before_stop (limit M : Nat) (hM : 0 < M) (evs : List Ev)
    (hs : (run (init limit (some M)) evs).stop = false) :
    (run (init limit (some M)) evs).processed < M := by
  refine Nat.lt_of_not_le fun h => ?_
  have := stops_after_M_finished limit M evs (Nat.lt_of_lt_of_le hM h) h
  rw [hs] at this; cases this

/-- every execution that was started is finished or in flight, and at most tasks_limit are in
    flight: `started ≤ processed + tasks_limit` in every reachable state -/
theorem started_le_processed_plus_limit (limit : Nat) (m : Option Nat) (evs : List Ev) :
    (run (init limit m) evs).started ≤ (run (init limit m) evs).processed + limit := by
  have h := (C09.inv_run _ evs (C09.inv_init limit m)).2.2
  have := C09.inflight_le_limit limit m evs
  omega

/-- `started_le_M_partial` — PARTIAL upper bound: while the stop flag is not set, at most
    `M − 1 + tasks_limit` executions have been started (fewer than M finished, at most tasks_limit in
    flight).  The bound `≤ M` of the statement does not hold on the current code. -/
theorem started_le_M_partial (limit M : Nat) (hM : 0 < M) (evs : List Ev)
    (hs : (run (init limit (some M)) evs).stop = false) :
    (run (init limit (some M)) evs).started + 1 ≤ M + limit := by
  have h1 := processed_lt_M_before_stop limit M hM evs hs
  have h2 := started_le_processed_plus_limit limit (some M) evs
  omega

/-- Refutation of the upper-bound clause on the current code: messages_limit = 2, tasks_limit = 1000,
    six messages waiting and actors slower than the consumer — six executions are started before the
    first completion evaluates the limit. -/
theorem overshoot_witness :
    let r := run (init 1000 (some 2)) [.deliver, .deliver, .deliver, .deliver, .deliver, .deliver]
    r.started = 6 ∧ r.stop = false ∧
    (run r [.done]).stop = true ∧ (run r [.done]).started = 6 := by
  decide

/-- …and with tasks_limit = 1, messages_limit = 1 (the testing plugin's run-on-enqueue mode) and a
    second message waiting: the slot handed over by the completing task starts a second execution. -/
theorem overshoot_witness_limit1 :
    let r := run (init 1 (some 1)) [.deliver, .deliver, .enterAcquire, .done, .wake, .spawn]
    r.started = 2 ∧ r.stop = true := by
  decide

end Repid.C10
