/-
C01 on the RabbitMQ broker — conservation: the server's own activity (expiring delays, pushing deliveries, the consumer's
decisions on arrival) and the terminal calls move a message between places; nothing but an acknowledgement removes it —
with the two recorded exceptions (F2r: the window inside `requeue`; F23: nack of a message held from the DEAD category).
Also the RabbitMQ clauses of C03 and C10 about a stopping consumer (`finish_*`, `rabbit_stop_*`).
Model: RepidModel/Broker/Rabbit.lean.

The idea: `pump`, `expireHeads`, `settle` are sequences of four elementary server moves (`Moves`: `pump_moves`, …), and
`consume`, `finish`, the stop sequence are compositions of those with `nack`, `reject` and two changes of the consumer
table (`Acts`: `consume_acts`, …).  Each preservation fact (places, discard pile, who holds what) is proved move by move
and act by act; the model's recursions appear only in the `_moves` / `_acts` lemmas.  Over whole histories (`Op`, `run`)
the facts add up to a ledger: published = in a place + discarded + acknowledged (`rabbit_ledger`), and nothing is discarded
while nobody consumes dead letters (`rabbit_no_discard`).
-/
import RepidModel.Broker.Rabbit
import RepidProofs.Props.Rabbit

namespace Repid.RabbitProofs
open Rabbit

def cnt (l : List Msg) (id : String) : Nat := (l.filter (·.id == id)).length
def one (m : Msg) (id : String) : Nat := if m.id = id then 1 else 0
def una (s : S) (id : String) : Nat := (s.unacked.filter (·.2.2.id == id)).length
def drp (s : S) (id : String) : Nat := cnt s.dropped id
def total (s : S) (id : String) : Nat := places s id + drp s id

def Inv (s : S) : Prop := ∀ id, places s id ≤ 1

theorem places_eq (s : S) (id : String) :
    places s id = cnt s.main id + cnt s.delayed id + cnt s.dead id + (s.unacked.filter (·.2.2.id == id)).length := rfl

-- `una s id` is the last summand of `places s id`
theorem una_le_one {s : S} (h : Inv s) (id : String) : una s id ≤ 1 := Nat.le_trans (Nat.le_add_left _ _) (h id)

theorem cnt_cons (m : Msg) (l : List Msg) (id : String) : cnt (m :: l) id = one m id + cnt l id := by
  simp +arith only [cnt, one, ← List.countP_eq_length_filter, List.countP_cons, beq_iff_eq]

theorem cnt_insert (m : Msg) (l : List Msg) (id : String) : cnt (Rabbit.insert m l) id = one m id + cnt l id := by
  fun_induction Rabbit.insert with
  | case3 x rest _ ih => simp +arith only [cnt_cons, ih]
  | _ => simp only [cnt_cons]

theorem get_seq (s : S) (n : Nat) (q : Qn) : ({ s with seq := n } : S).get q = s.get q := by cases q <;> rfl

theorem places_set (s : S) (q : Qn) (l : List Msg) (id : String) :
    places (s.set q l) id + cnt (s.get q) id = places s id + cnt l id := by
  cases q <;> simp +arith only [places_eq, S.set, S.get]

theorem places_pop {s : S} {q : Qn} {m : Msg} {rest : List Msg} (h : s.get q = m :: rest) (id : String) :
    places (s.set q rest) id + one m id = places s id := by
  simpa +arith only [h, cnt_cons] using places_set s q rest id

theorem places_put (s : S) (q : Qn) (m : Msg) (id : String) :
    places (s.set q (Rabbit.insert m (s.get q))) id = places s id + one m id := by
  simpa +arith only [cnt_insert] using places_set s q (Rabbit.insert m (s.get q)) id

theorem places_setCons (s : S) (cid : Nat) (c : Cons) (id : String) : places (setCons s cid c) id = places s id := rfl

theorem places_hold (s : S) (cid : Nat) (q : Qn) (m : Msg) (id : String) :
    places ({ s with unacked := s.unacked ++ [(cid, q, m)] } : S) id = places s id + one m id := by
  simp +arith only [places_eq, one, ← List.countP_eq_length_filter, List.countP_append, List.countP_singleton, beq_iff_eq]

/-- `s'` is `s` after the server took `m` into one of its queues (new arrival number, position by priority, some
    expiration): what `publish` and dead-lettering to a target queue have in common -/
inductive Enq (s : S) (m : Msg) : S → Prop
  | mk (q : Qn) (e : Option Int) :
      Enq s m (({ s with seq := s.seq + 1 } : S).set q (Rabbit.insert { m with expiresAt := e, seq := s.seq + 1 } (s.get q)))

theorem Enq.places {s s' : S} {m : Msg} (h : Enq s m s') (id : String) : places s' id = places s id + one m id := by
  cases h with
  | mk q e =>
    rw [← get_seq s (s.seq + 1) q, places_put]
    rfl

theorem Enq.dropped {s s' : S} {m : Msg} (h : Enq s m s') : s'.dropped = s.dropped := by
  cases h
  exact set_dropped ..

theorem publish_enq (s : S) (m : Msg) (millis : Option Int) (now : Int) : Enq s m (publish s m millis now) := by
  fun_cases publish
  case case1 => exact .mk .delayed (some _)
  all_goals exact .mk .main none

theorem deadLetter_enq (s : S) {q : Qn} (m : Msg) (hq : q ≠ .dead) : Enq s m (deadLetter s q m) := by
  cases q with
  | dead => exact absurd rfl hq
  | main => exact .mk .dead none
  | delayed => exact .mk .main none

/-- publishing adds exactly the published message -/
theorem publish_places (s : S) (m : Msg) (millis : Option Int) (now : Int) (id : String) :
    places (publish s m millis now) id = places s id + one m id :=
  (publish_enq s m millis now).places id

theorem publish_dropped (s : S) (m : Msg) (millis : Option Int) (now : Int) : (publish s m millis now).dropped = s.dropped :=
  (publish_enq s m millis now).dropped

/-- dead-lettering from a queue that has a dead-letter target adds the message (under its id) to that target -/
theorem places_deadLetter (s : S) (q : Qn) (m : Msg) (id : String) (hq : q ≠ .dead) :
    places (deadLetter s q m) id = places s id + one m id :=
  (deadLetter_enq s m hq).places id

theorem deadLetter_dropped {s : S} {q : Qn} {m : Msg} (hq : q ≠ .dead) : (deadLetter s q m).dropped = s.dropped :=
  (deadLetter_enq s m hq).dropped

/-- no dead-letter consumer: nobody listens on the DEAD queue, nothing is held from it -/
def NoDeadCons (s : S) : Prop := (∀ e ∈ s.consumers, e.2.cat ≠ .dead) ∧ (∀ e ∈ s.unacked, e.2.1 ≠ .dead)

theorem forall_setCons {P : Nat → Qn → Prop} {s : S} {cid : Nat} {c : Cons} (hp : P cid c.cat)
    (h0 : ∀ x ∈ s.consumers, P x.1 x.2.cat) : ∀ x ∈ (setCons s cid c).consumers, P x.1 x.2.cat := by
  intro x hx
  obtain ⟨e, he, rfl⟩ := List.mem_map.mp hx
  split
  · exact hp
  · exact h0 e he

/-- the server's own activity: `pump`, `expireHeads` and `settle` are sequences of these moves (`pump_moves`, …) -/
inductive Moves : S → S → Prop
  | refl (s : S) : Moves s s
  | trans {a b c : S} : Moves a b → Moves b c → Moves a c
  /-- a delivery: the head of a queue goes into the hands (and the local queue) of a consumer of that queue -/
  | deliver {s : S} {cid : Nat} {c : Cons} {m : Msg} {rest : List Msg} :
      (cid, c) ∈ s.consumers → s.get c.cat = m :: rest →
      Moves s (setCons { s.set c.cat rest with unacked := (s.set c.cat rest).unacked ++ [(cid, c.cat, m)] } cid
        { c with loc := c.loc ++ [m] })
  /-- the head of a queue that has a dead-letter target goes to that target -/
  | deadLetter {s : S} {q : Qn} {m : Msg} {rest : List Msg} :
      s.get q = m :: rest → q ≠ .dead → Moves s (deadLetter (s.set q rest) q m)
  /-- a queue is rearranged (a delivery the consumer gives back, `basic_reject` with requeue, returns to its position) -/
  | reorder {s : S} {q : Qn} {l : List Msg} : (∀ id, cnt l id = cnt (s.get q) id) → Moves s (s.set q l)
  | tick (s : S) (t : Int) : Moves s { s with clock := t }

namespace Moves

theorem places {s s' : S} (h : Moves s s') (id : String) : Rabbit.places s' id = Rabbit.places s id := by
  induction h with
  | refl | tick => rfl
  | trans _ _ h1 h2 => exact h2.trans h1
  | deliver _ hget =>
    rw [places_setCons, places_hold]
    exact places_pop hget id
  | deadLetter hget hq =>
    rw [places_deadLetter _ _ _ _ hq]
    exact places_pop hget id
  | @reorder s q l h => simpa +arith only [h id] using places_set s q l id

theorem dropped {s s' : S} (h : Moves s s') : s'.dropped = s.dropped := by
  induction h with
  | refl | tick => rfl
  | trans _ _ h1 h2 => exact h2.trans h1
  | deliver | reorder => exact set_dropped _ _ _
  | deadLetter _ hq => rw [deadLetter_dropped hq, set_dropped]

/-- deliveries go only to listed consumers, each from the queue that consumer reads, and the list does not change: whatever
    `P` holds of every (consumer, queue) listed still does, and holds of whoever was handed something -/
theorem only {P : Nat → Qn → Prop} {s s' : S} (h : Moves s s') (h0 : ∀ c ∈ s.consumers, P c.1 c.2.cat) :
    (∀ c ∈ s'.consumers, P c.1 c.2.cat) ∧ ∀ e ∈ s'.unacked, e ∈ s.unacked ∨ P e.1 e.2.1 := by
  induction h with
  | refl | tick => exact ⟨h0, fun _ h => .inl h⟩
  | trans _ _ h1 h2 =>
    obtain ⟨c1, u1⟩ := h1 h0
    obtain ⟨c2, u2⟩ := h2 c1
    exact ⟨c2, fun e he => (u2 e he).elim (u1 e) .inr⟩
  | @deliver s cid c m rest hc _ =>
    have hp : P cid c.cat := h0 _ hc
    refine ⟨forall_setCons hp (set_consumers s _ _ ▸ h0), List.forall_mem_append.mpr ⟨fun e h => ?_, ?_⟩⟩
    · exact .inl (set_unacked s _ _ ▸ h)
    · exact List.forall_mem_singleton.mpr (.inr hp)
  | deadLetter => rw [deadLetter_unacked, set_unacked, deadLetter_consumers, set_consumers]; exact ⟨h0, fun _ h => .inl h⟩
  | reorder => rw [set_unacked, set_consumers]; exact ⟨h0, fun _ h => .inl h⟩

theorem ndc {s s' : S} (h : Moves s s') (h0 : NoDeadCons s) : NoDeadCons s' :=
  have ⟨hc, hu⟩ := h.only (P := fun _ q => q ≠ .dead) h0.1
  ⟨hc, fun e he => (hu e he).elim (h0.2 e) id⟩

end Moves

theorem pump_found {s : S} {l : List (Nat × Cons)} {e : Nat × Cons} {m : Msg}
    (h : l.findSome? (fun e => match s.get e.2.cat with | m :: _ => some (e, m) | [] => none) = some (e, m)) :
    e ∈ l ∧ s.get e.2.cat = m :: (s.get e.2.cat).drop 1 := by
  obtain ⟨x, hx, he⟩ := List.exists_of_findSome?_eq_some h
  split at he
  next hget =>
    cases he
    exact ⟨hx, hget ▸ rfl⟩
  next => cases he

theorem pump_moves (now : Int) (fuel : Nat) (s : S) : Moves s (pump now fuel s) := by
  -- the branches of `pump`: no fuel; nobody to serve; then by the consumer's decision: hold, nackDead, rejectBack
  fun_induction pump with
  | case1 | case2 => exact .refl _
  | case3 fuel s cid c m hfind s' _ ih =>
    have ⟨hc, hget⟩ := pump_found hfind
    exact .trans (.deliver ((List.filter_append_perm ..).subset hc) hget) ih
  | case4 fuel s cid c m hfind s' hdec ih =>
    exact .trans (.deadLetter (pump_found hfind).2 (by rw [onMessage_nackDead hdec]; decide)) ih
  | case5 fuel s cid c m hfind s' _ =>
    -- the message returns to the queue it was just taken from
    rw [set_set, get_set]
    exact .reorder fun id => by rw [cnt_insert, ← cnt_cons, ← (pump_found hfind).2]

theorem expireHeads_moves (now : Int) (fuel : Nat) (s : S) : Moves s (expireHeads now fuel s) := by
  fun_induction expireHeads with
  | case2 s fuel m rest hd t ht hle te s' ih =>
    -- the head of the delayed queue is due; in every other branch nothing happens
    exact .trans (.deadLetter (q := .delayed) hd (by decide)) (.trans (.tick _ _) (.trans (pump_moves _ _ _) ih))
  | _ => exact .refl _

theorem settle_moves (s : S) (now : Int) : Moves s (settle s now) :=
  .trans (expireHeads_moves now _ s) (.trans (.tick _ _) (pump_moves _ _ _))

/-- `pump_conserves`: pushing deliveries to the consumers and their decisions on arrival (hold, dead-letter an expired
    message, give a foreign one back) never change the number of places of any message — for every fuel and state -/
theorem pump_conserves (now : Int) : ∀ (fuel : Nat) (s : S) (id : String), places (pump now fuel s) id = places s id :=
  fun fuel s => (pump_moves now fuel s).places

/-- expiring delays (each followed by serving the consumers) conserves every message -/
theorem expireHeads_conserves (now : Int) : ∀ (fuel : Nat) (s : S) (id : String), places (expireHeads now fuel s) id = places s id :=
  fun fuel s => (expireHeads_moves now fuel s).places

/-- `settle_conserves`: whatever time passes and whatever the server does on its own, every message stays in exactly
    as many places as before -/
theorem settle_conserves (s : S) (now : Int) (id : String) : places (settle s now) id = places s id :=
  (settle_moves s now).places id

theorem ack_dropped (s : S) (idm : String) : (ack s idm).dropped = s.dropped := by rw [ack_eq]

theorem ack_ledger (s : S) (idm id : String) :
    places (ack s idm) id + (if idm = id then una s idm else 0) = places s id := by
  rw [ack_eq]
  simp only [places_eq, una, ← List.countP_eq_length_filter, List.countP_filter]
  split
  next h =>
    subst h
    simp only [Bool.and_not_self, List.countP_false, Function.const_apply, Nat.add_zero]
  next h =>
    -- every entry with the id `id` passes the filter that `ack` applies
    rw [Nat.add_zero]
    congr 1
    refine List.countP_congr fun x _ => ?_
    simp only [Bool.and_eq_true, beq_iff_eq, Bool.not_eq_true', beq_eq_false_iff_ne, and_iff_left_iff_imp]
    exact fun hx => hx ▸ Ne.symm h

/-- ack removes the held message (and only it) -/
theorem ack_places (s : S) (idm id : String) (hid : id ≠ idm) : places (ack s idm) id = places s id := by
  rw [← ack_ledger s idm id, if_neg (Ne.symm hid)]
  rfl

theorem ack_found {s : S} {idm : String} {e : Nat × Qn × Msg} (hf : s.unacked.find? (·.2.2.id == idm) = some e)
    (h : una s idm ≤ 1) (id : String) : places (ack s idm) id + one e.2.2 id = places s id := by
  have hid := List.find?_some hf
  have hpos : 0 < una s idm := List.length_pos_of_mem (List.mem_filter.mpr ⟨List.mem_of_find?_eq_some hf, hid⟩)
  have := ack_ledger s idm id
  rw [show una s idm = 1 by omega] at this
  rw [one, eq_of_beq hid]
  exact this

/-- reject conserves: the held message goes back to the queue it was delivered from -/
theorem reject_conserves (s : S) (idm id : String) (hinv : una s idm ≤ 1) :
    places (reject s idm) id = places s id := by
  rw [reject_eq]
  split
  next c q m hf =>
    rw [places_put]
    exact ack_found hf hinv id
  next => rfl

theorem total_deadLetter (s : S) (q : Qn) (m : Msg) (id : String) :
    total (deadLetter s q m) id = total s id + one m id ∧ drp s id ≤ drp (deadLetter s q m) id := by
  by_cases hq : q = .dead
  · subst hq
    have h1 : places (deadLetter s .dead m) id = places s id := rfl
    have h2 : drp (deadLetter s .dead m) id = one m id + drp s id := cnt_cons m s.dropped id
    simp +arith only [total, h1, h2, and_self]
  · simp +arith only [total, drp, deadLetter_dropped hq, places_deadLetter _ _ _ _ hq, and_self]

/-- `nack` (basic_nack, requeue=False) moves the held message to the dead-letter target of the queue it was delivered
    from — or, for the DEAD queue (no target), to the server's discard pile: nothing else changes -/
theorem nack_spec (s : S) (idm id : String) (h : una s idm ≤ 1) :
    total (nack s idm) id = total s id ∧ drp s id ≤ drp (nack s idm) id := by
  rw [nack_eq]
  split
  next c q m hf =>
    have h1 := total_deadLetter (ack s idm) q m id
    simp +arith only [total, drp, ack_dropped, ← ack_found hf h id] at h1 ⊢
    exact h1
  next => exact ⟨rfl, Nat.le_refl _⟩

/-- what the client's calls do at the server: `consume`, `finish` and the stop sequence are compositions of these
    (`consume_acts`, `finish_acts`) -/
inductive Acts : S → S → Prop
  | trans {a b c : S} : Acts a b → Acts b c → Acts a c
  | srv {s s' : S} : Moves s s' → Acts s s'
  /-- client side only: the record of a consumer (its local queue) changes, the queue it reads does not -/
  | loc {s : S} {cid : Nat} {c : Cons} (l : List Msg) : (cid, c) ∈ s.consumers → Acts s (setCons s cid { c with loc := l })
  /-- `basic_cancel` -/
  | cancel (s : S) (cid : Nat) : Acts s { s with consumers := s.consumers.filter (·.1 != cid) }
  | nack (s : S) (id : String) : Acts s (nack s id)
  | reject (s : S) (id : String) : Acts s (reject s id)

/-- the shape of every conservation statement about a call -/
def Conserves (s s' : S) : Prop := Inv s → (∀ id, total s' id = total s id) ∧ Inv s'

/-- the shape of every no-discard statement about a call -/
def Quiet (s s' : S) : Prop := NoDeadCons s → NoDeadCons s' ∧ s'.dropped = s.dropped

theorem conserves_of_places {s s' : S} (hp : ∀ id, places s' id = places s id) (hd : s'.dropped = s.dropped) : Conserves s s' :=
  fun h => ⟨fun id => by rw [total, total, drp, drp, hp, hd], fun id => hp id ▸ h id⟩

theorem conserves_reject (s : S) (idm : String) : Conserves s (reject s idm) := fun h =>
  conserves_of_places (fun id => reject_conserves s idm id (una_le_one h idm)) (reject_dropped s idm) h

theorem conserves_nack (s : S) (idm : String) : Conserves s (nack s idm) := fun h =>
  have hn := fun id => nack_spec s idm id (una_le_one h idm)
  ⟨fun id => (hn id).1, fun id => by
    have h1 := hn id
    have := h id
    simp only [total] at h1
    omega⟩

theorem quiet_of_sub {s s' : S} (hu : ∀ e ∈ s'.unacked, e ∈ s.unacked) (hc : ∀ c ∈ s'.consumers, c ∈ s.consumers)
    (hd : s'.dropped = s.dropped) : Quiet s s' :=
  fun h => ⟨⟨fun c hc' => h.1 c (hc c hc'), fun e he => h.2 e (hu e he)⟩, hd⟩

theorem Enq.quiet {s s' : S} {m : Msg} (h : Enq s m s') : Quiet s s' := by
  cases h
  rw [Quiet, NoDeadCons, NoDeadCons, set_unacked, set_consumers, set_dropped]
  exact fun h => ⟨h, rfl⟩

theorem quiet_ack (s : S) (idm : String) : Quiet s (ack s idm) := by
  rw [ack_eq]; exact quiet_of_sub (fun e he => (List.mem_filter.mp he).1) (fun _ h => h) rfl

theorem quiet_nack (s : S) (idm : String) : Quiet s (nack s idm) := by
  intro h
  rw [nack_eq]
  split
  next c q m hf =>
    -- the entry found was held from a queue that has a dead-letter target
    have ⟨h1, d1⟩ := quiet_ack s idm h
    have ⟨h2, d2⟩ := (deadLetter_enq (ack s idm) m (h.2 _ (List.mem_of_find?_eq_some hf))).quiet h1
    exact ⟨h2, d2.trans d1⟩
  next => exact ⟨h, rfl⟩

namespace Acts

theorem refl (s : S) : Acts s s := .srv (.refl s)

theorem foldl {α : Type} {f : S → α → S} (hf : ∀ s a, Acts s (f s a)) (l : List α) (s : S) : Acts s (l.foldl f s) := by
  induction l generalizing s with
  | nil => exact .refl s
  | cons a l ih => exact .trans (hf s a) (ih _)

theorem conserves {s s' : S} (h : Acts s s') : Conserves s s' := by
  induction h with
  | trans _ _ h1 h2 =>
    intro h
    obtain ⟨e1, i1⟩ := h1 h
    obtain ⟨e2, i2⟩ := h2 i1
    exact ⟨fun id => (e2 id).trans (e1 id), i2⟩
  | srv h => exact conserves_of_places h.places h.dropped
  | loc | cancel => exact conserves_of_places (fun _ => rfl) rfl
  | nack s id => exact conserves_nack s id
  | reject s id => exact conserves_reject s id

theorem quiet {s s' : S} (h : Acts s s') : Quiet s s' := by
  induction h with
  | trans _ _ h1 h2 =>
    intro h
    obtain ⟨n1, d1⟩ := h1 h
    obtain ⟨n2, d2⟩ := h2 n1
    exact ⟨n2, d2.trans d1⟩
  | srv h => exact fun hn => ⟨h.ndc hn, h.dropped⟩
  | loc _ hc => exact fun hn => ⟨⟨forall_setCons (P := fun _ q => q ≠ .dead) (hn.1 _ hc) hn.1, hn.2⟩, rfl⟩
  | cancel => exact quiet_of_sub (fun _ h => h) (fun _ h => (List.mem_filter.mp h).1) rfl
  | nack s id => exact quiet_nack s id
  | reject s id =>
    exact quiet_of_sub (fun _ he => (mem_reject_unacked he).1) (by rw [reject_consumers]; exact fun _ h => h) (reject_dropped s id)

end Acts

theorem mem_of_find {s : S} {cid x : Nat} {c : Cons} (hf : s.consumers.find? (·.1 == cid) = some (x, c)) :
    (cid, c) ∈ s.consumers :=
  (show x = cid by simpa using List.find?_some hf) ▸ List.mem_of_find?_eq_some hf

theorem consume_acts (now : Int) (cat : Qn) (fuel : Nat) (s : S) (cid : Nat) : Acts s (consume now cat fuel s cid).1 := by
  fun_induction consume with
  | case2 fuel s cid x c hf m rest _ s1 _ s2 ih =>
    -- the head of the local queue is overdue: it is nacked, the server reacts, and the next one is looked at
    exact (Acts.loc rest (mem_of_find hf)).trans ((Acts.nack _ _).trans ((Acts.srv (pump_moves ..)).trans ih))
  | case3 fuel s cid x c hf m rest => exact .loc rest (mem_of_find hf)
  | _ => exact .refl _

theorem finish_acts (s : S) (cid : Nat) (now : Int) : Acts s (finish s cid now) := by
  fun_cases finish
  case case1 =>
    have hf : ∀ (s : S) (m : Msg), Acts s (settle (reject s m.id) now) := fun s m =>
      (Acts.reject s m.id).trans (.srv (settle_moves _ now))
    exact (Acts.cancel s cid).trans (.foldl hf _ _)
  case case2 => exact .refl s

/-- `consume()` — including the dead-lettering of prefetched messages whose ttl has run out — changes the place of no
    message, for every local queue, fuel and state -/
theorem consume_total (now : Int) (cat : Qn) : ∀ (fuel : Nat) (s : S) (cid : Nat), Inv s →
    (∀ id, total (consume now cat fuel s cid).1 id = total s id) ∧ Inv (consume now cat fuel s cid).1 :=
  fun fuel s cid => (consume_acts now cat fuel s cid).conserves

/-- `finish_conserves`: stopping a consumer (cancel + reject of everything in its local queue, of any length) changes
    the place of no message -/
theorem finish_conserves (s : S) (cid : Nat) (now : Int) (h : Inv s) :
    (∀ id, total (finish s cid now) id = total s id) ∧ Inv (finish s cid now) :=
  (finish_acts s cid now).conserves h

/-! ## every history -/

inductive Op where
  | publish (m : Msg) (millis : Option Int) (now : Int)
  | settle (now : Int)                                   -- time passes; the server expires delays and serves its consumers
  | consume (now : Int) (cat : Qn) (fuel : Nat) (cid : Nat)
  | ack (id : String)
  | nack (id : String)
  | reject (id : String)
  | finish (cid : Nat) (now : Int)
  | listen (cid : Nat) (cat : Qn) (topics : List String)

/-- the server state plus the two logs the statement is about -/
structure H where
  s : S := {}
  acked : List String := []
  published : List String := []

def cntS (l : List String) (id : String) : Nat := (l.filter (· == id)).length

def step (h : H) : Op → H
  | .publish m ms now => { h with s := publish h.s m ms now, published := m.id :: h.published }
  | .settle now => { h with s := settle h.s now }
  | .consume now cat fuel cid => { h with s := (consume now cat fuel h.s cid).1 }
  | .ack id => { h with s := ack h.s id, acked := List.replicate (una h.s id) id ++ h.acked }
  | .nack id => { h with s := nack h.s id }
  | .reject id => { h with s := reject h.s id }
  | .finish cid now => { h with s := finish h.s cid now }
  | .listen cid cat topics => { h with s := { h.s with consumers := h.s.consumers ++ [(cid, { cat := cat, topics := topics })] } }

/-- the client's only obligation: an id is not used for a second message while the first one still exists -/
def StepOk (h : H) : Op → Prop
  | .publish m _ _ => places h.s m.id = 0
  | _ => True

def run (h : H) : List Op → H
  | [] => h
  | op :: rest => run (step h op) rest

def StepsOk (h : H) : List Op → Prop
  | [] => True
  | op :: rest => StepOk h op ∧ StepsOk (step h op) rest

/-- the ledger: what was published = what waits or is held (`places`) + what the server discarded + what was acknowledged -/
def Ledger (h : H) : Prop := ∀ id, total h.s id + cntS h.acked id = cntS h.published id

theorem cntS_replicate (n : Nat) (x : String) (l : List String) (id : String) :
    cntS (List.replicate n x ++ l) id = (if x = id then n else 0) + cntS l id := by
  simp only [cntS, ← List.countP_eq_length_filter, List.countP_append, List.countP_replicate, beq_iff_eq]

theorem cntS_cons (x : String) (l : List String) (id : String) : cntS (x :: l) id = (if x = id then 1 else 0) + cntS l id :=
  cntS_replicate 1 x l id

theorem Conserves.step {h : H} {s' : S} (hc : Conserves h.s s') (hi : Inv h.s) (hl : Ledger h) :
    Inv s' ∧ Ledger { h with s := s' } :=
  ⟨(hc hi).2, fun id => (congrArg (· + cntS h.acked id) ((hc hi).1 id)).trans (hl id)⟩

theorem step_ledger (h : H) (op : Op) (hi : Inv h.s) (hl : Ledger h) (hok : StepOk h op) :
    Inv (step h op).s ∧ Ledger (step h op) := by
  cases op with
  | publish m ms now =>
    have hp := publish_places h.s m ms now
    constructor
    · intro id
      show places (publish h.s m ms now) id ≤ 1
      rw [hp, one]
      split
      next hm => rw [← hm, (hok : places h.s m.id = 0)]; exact Nat.le_refl 1
      next => exact hi id
    · intro id
      show total (publish h.s m ms now) id + cntS h.acked id = cntS (m.id :: h.published) id
      simp +arith only [cntS_cons, ← hl id, total, drp, publish_dropped, hp, one]
  | ack idm =>
    have h1 := ack_ledger h.s idm
    constructor
    · exact fun id => Nat.le_trans (Nat.le.intro (h1 id)) (hi id)
    · intro id
      show total (ack h.s idm) id + cntS (List.replicate (una h.s idm) idm ++ h.acked) id = cntS h.published id
      simp +arith only [cntS_replicate, ← hl id, total, drp, ack_dropped, ← h1 id]
  | settle now =>
    dsimp only [step]  -- else the unifier unfolds `settle` before `step`, which is slow
    exact (Acts.srv (settle_moves h.s now)).conserves.step hi hl
  | consume now cat fuel cid => exact (consume_acts now cat fuel h.s cid).conserves.step hi hl
  | nack idm => exact (Acts.nack h.s idm).conserves.step hi hl
  | reject idm => exact (Acts.reject h.s idm).conserves.step hi hl
  | finish cid now => exact (finish_acts h.s cid now).conserves.step hi hl
  | listen cid cat topics => exact ⟨hi, hl⟩

/-- `rabbit_ledger`: after ANY finite history of publish / passing time / consume / ack / nack / reject / finish / new
    consumers on the RabbitMQ broker, every message is in at most one place, and the ledger balances: nothing appears
    or disappears except through `publish` and `ack` — or the server's discard pile (`drp`, see `rabbit_no_discard`) -/
theorem rabbit_ledger : ∀ (ops : List Op) (h : H), Inv h.s → Ledger h → StepsOk h ops →
    Inv (run h ops).s ∧ Ledger (run h ops) := by
  intro ops h
  fun_induction run with
  | case1 h => exact fun hi hl _ => ⟨hi, hl⟩
  | case2 h op rest ih =>
    intro hi hl hok
    obtain ⟨h1, h2⟩ := step_ledger h op hi hl hok.1
    exact ih h1 h2 hok.2

theorem rabbit_ledger_from_empty (ops : List Op) (hok : StepsOk {} ops) (id : String) :
    places (run {} ops).s id ≤ 1 ∧
    places (run {} ops).s id + drp (run {} ops).s id + cntS (run {} ops).acked id = cntS (run {} ops).published id := by
  have h := rabbit_ledger ops {} (fun _ => Nat.zero_le 1) (fun _ => rfl) hok
  exact ⟨h.1 id, h.2 id⟩

def NoDeadListen : List Op → Prop
  | [] => True
  | .listen _ cat _ :: rest => cat ≠ .dead ∧ NoDeadListen rest
  | _ :: rest => NoDeadListen rest

theorem NoDeadListen.tail {op : Op} {rest : List Op} (h : NoDeadListen (op :: rest)) : NoDeadListen rest := by
  cases op with
  | listen => exact h.2
  | _ => exact h

theorem step_no_discard (h : H) (op : Op) (rest : List Op) (hn : NoDeadCons h.s) (hop : NoDeadListen (op :: rest)) :
    NoDeadCons (step h op).s ∧ (step h op).s.dropped = h.s.dropped := by
  cases op with
  | publish m ms now => exact (publish_enq h.s m ms now).quiet hn
  | settle now => dsimp only [step]; exact (Acts.srv (settle_moves h.s now)).quiet hn
  | consume now cat fuel cid => exact (consume_acts now cat fuel h.s cid).quiet hn
  | ack idm => exact quiet_ack h.s idm hn
  | nack idm => exact (Acts.nack h.s idm).quiet hn
  | reject idm => exact (Acts.reject h.s idm).quiet hn
  | finish cid now => exact (finish_acts h.s cid now).quiet hn
  | listen cid cat topics =>
    exact ⟨⟨List.forall_mem_append.mpr ⟨hn.1, List.forall_mem_singleton.mpr hop.1⟩, hn.2⟩, rfl⟩

/-- `rabbit_no_discard`: in every history in which nobody consumes from the DEAD category, the server discards nothing —
    with `rabbit_ledger`: every published message is then, at every moment, in exactly one of: a queue, a consumer's
    hands, or acknowledged.  (With a DEAD-category consumer a `nack` discards: `rabbit_nack_nonnormal_witness`, F23.) -/
theorem rabbit_no_discard : ∀ (ops : List Op) (h : H), NoDeadCons h.s → NoDeadListen ops →
    (run h ops).s.dropped = h.s.dropped := by
  intro ops h
  fun_induction run with
  | case1 h => exact fun _ _ => rfl
  | case2 h op rest ih =>
    intro hn hl
    obtain ⟨h1, h2⟩ := step_no_discard h op rest hn hl
    exact (ih h1 hl.tail).trans h2

theorem rabbit_exactly_one_place (ops : List Op) (hok : StepsOk {} ops) (hl : NoDeadListen ops) (id : String) :
    places (run {} ops).s id + cntS (run {} ops).acked id = cntS (run {} ops).published id ∧ places (run {} ops).s id ≤ 1 := by
  have h := rabbit_ledger_from_empty ops hok id
  have hd : drp (run {} ops).s id = 0 :=
    congrArg (cnt · id) (rabbit_no_discard ops {} ⟨fun _ h => (nomatch h), fun _ h => (nomatch h)⟩ hl)
  rw [hd] at h
  exact ⟨h.2, h.1⟩

-- non-vacuity: a history that satisfies the guards, with a delay, a consumer, a hand-over and a reject
example : StepsOk {} [.listen 0 .main [], .publish { id := "a", topic := "t", prio := 5, payload := "", params := {} } (some 1500) 0,
    .settle 2000000, .consume 2000000 .main 3 0, .reject "a", .publish { id := "b", topic := "t", prio := 5, payload := "", params := {} } none 5] ∧
    NoDeadListen [.listen 0 .main [], .publish { id := "a", topic := "t", prio := 5, payload := "", params := {} } (some 1500) 0,
    .settle 2000000, .consume 2000000 .main 3 0, .reject "a", .publish { id := "b", topic := "t", prio := 5, payload := "", params := {} } none 5] := by
  simp only [StepsOk, StepOk, NoDeadListen, true_and, and_true]
  decide

/-! ## the stopping worker -/

/-- the stopping worker on RabbitMQ (`_Runner._run_consumer` on cancellation, after `fix:` dfed4c8): the consumer is
    finished, then the runner rejects what it still has in hand -/
def stopWorker (s : S) (cid : Nat) (now : Int) (inHand : List String) : S :=
  inHand.foldl (fun acc id => reject acc id) (finish s cid now)

/-- `rabbit_stop_conserves`: whatever the stopping worker holds (a local queue of any length, any messages in hand), the
    stop sequence changes the place of no message -/
theorem rabbit_stop_conserves (s : S) (cid : Nat) (now : Int) (inHand : List String) (h : Inv s) :
    (∀ id, total (stopWorker s cid now inHand) id = total s id) ∧ Inv (stopWorker s cid now inHand) :=
  ((finish_acts s cid now).trans (.foldl Acts.reject inHand _)).conserves h

/-- while messages are given back one by one (`react`: what the server does after each reject), what is still in flight
    under a cancelled consumer was in flight before and is none of those given back -/
theorem mem_foldl_reject_unacked {α : Type} (f : α → String) {react : S → S} (hr : ∀ s, Moves s (react s)) (cid : Nat)
    (l : List α) (s : S) (hc : ∀ c ∈ s.consumers, c.1 ≠ cid) :
    (∀ c ∈ (l.foldl (fun acc a => react (reject acc (f a))) s).consumers, c.1 ≠ cid) ∧
    ∀ e ∈ (l.foldl (fun acc a => react (reject acc (f a))) s).unacked, e.1 = cid → e ∈ s.unacked ∧ ∀ a ∈ l, f a ≠ e.2.2.id := by
  induction l generalizing s with
  | nil => exact ⟨hc, fun e he _ => ⟨he, fun _ hm => nomatch hm⟩⟩
  | cons a rest ih =>
    -- the server's reaction to the reject hands the cancelled consumer nothing
    have hk := (hr (reject s (f a))).only (P := fun x _ => x ≠ cid) (by rw [reject_consumers]; exact hc)
    refine ⟨(ih _ hk.1).1, fun e he hcid => ?_⟩
    obtain ⟨h1, h2⟩ := (ih _ hk.1).2 e he hcid
    obtain ⟨h3, h4⟩ := mem_reject_unacked ((hk.2 e h1).resolve_right fun h => h hcid)
    exact ⟨h3, List.forall_mem_cons.mpr ⟨h4.symm, h2⟩⟩

/-- `rabbit_stop_clears`: when everything the worker's consumer holds un-acknowledged is either in its local queue or in
    the runner's hand, nothing stays in flight under it after the stop sequence -/
theorem rabbit_stop_clears (s : S) (cid : Nat) (now : Int) (inHand : List String) (c : Cons)
    (hc : s.consumers.find? (·.1 == cid) = some (cid, c))
    (hheld : ∀ e ∈ s.unacked, e.1 = cid → (∃ m ∈ c.loc, m.id = e.2.2.id) ∨ e.2.2.id ∈ inHand) :
    ∀ e ∈ (stopWorker s cid now inHand).unacked, e.1 ≠ cid := by
  intro e he hcid
  simp only [stopWorker, finish, hc] at he
  -- `finish`: cancel, then the local queue is rejected (the server settles after each); then the runner rejects its hand
  obtain ⟨h1, h2⟩ := mem_foldl_reject_unacked (·.id) (fun s => settle_moves s now) cid c.loc
    { s with consumers := s.consumers.filter (·.1 != cid) } fun x hx => by simpa using (List.mem_filter.mp hx).2
  obtain ⟨h3, h4⟩ := (mem_foldl_reject_unacked id Moves.refl cid inHand _ h1).2 e he hcid
  obtain ⟨h5, h6⟩ := h2 e h3 hcid
  rcases hheld e h5 hcid with ⟨m, hm, hid⟩ | hin
  · exact h6 m hm hid
  · exact h4 _ hin rfl

/-- `finish_clears`: when everything the consumer still holds un-acknowledged sits in its local queue (nothing in hand,
    nothing running), nothing stays in flight under it after `finish` — it is all back at the server -/
theorem finish_clears (s : S) (cid : Nat) (now : Int) (c : Cons) (hc : s.consumers.find? (·.1 == cid) = some (cid, c))
    (hloc : ∀ e ∈ s.unacked, e.1 = cid → ∃ m ∈ c.loc, m.id = e.2.2.id) :
    ∀ e ∈ (finish s cid now).unacked, e.1 ≠ cid :=
  rabbit_stop_clears s cid now [] c hc fun e he h => .inl (hloc e he h)

/-- the hand-over that a stop cancels: `consume()` has taken the message out of the local queue, the cancellation lands
    before the runner receives it (inside the middleware wrapper's `after_consume` signal) -/
def cancelledHandover (s : S) (cid : Nat) : S :=
  match s.consumers.find? (·.1 == cid) with
  | some (_, c) => setCons s cid { c with loc := c.loc.drop 1 }
  | none => s

/-- `rabbit_cancelled_handover_witness` (F26): after a cancelled hand-over the stop sequence — with nothing in the runner's
    hand — leaves the message unacknowledged under the stopped consumer (the hypothesis of `rabbit_stop_clears` fails: the
    message is neither in the local queue nor in hand); nothing is lost at the server, but it stays in flight -/
theorem rabbit_cancelled_handover_witness :
    let m : Msg := { id := "a", topic := "t", prio := 5, payload := "", params := {} }
    let s : S := { unacked := [(0, .main, m)], consumers := [(0, { cat := .main, loc := [m] })] }
    (stopWorker (cancelledHandover s 0) 0 0 []).unacked.map (·.2.2.id) = ["a"] ∧
    (stopWorker s 0 0 []).unacked = [] ∧ (stopWorker s 0 0 []).main.map (·.id) = ["a"] := by
  decide

end Repid.RabbitProofs
