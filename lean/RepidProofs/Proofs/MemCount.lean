/-
Per-id occurrence counting over the places of the in-memory queue.  `[m.id].count i` (1 if `m` has
id `i`, else 0) is the unit in which every lemma counts one message: it is literally what
`introduces` contributes for a `put`.
-/
import RepidModel.Pred.C01

namespace Repid.Mem
open List Pred.C01

def cnt (i : String) (l : List Msg) : Nat := (l.map (·.id)).count i

theorem cntId_eq_cnt (i : String) (l : List Msg) : cntId i l = cnt i l := rfl

@[simp] theorem cnt_nil (i : String) : cnt i [] = 0 := rfl
@[simp] theorem cnt_append (i : String) (a b : List Msg) : cnt i (a ++ b) = cnt i a + cnt i b := by
  simp only [cnt, map_append, count_append]
@[simp] theorem cnt_cons (i : String) (m : Msg) (l : List Msg) :
    cnt i (m :: l) = [m.id].count i + cnt i l :=
  cnt_append i [m] l

theorem cnt_perm (i : String) {a b : List Msg} (h : a.Perm b) : cnt i a = cnt i b :=
  (h.map _).count_eq i

theorem cnt_pos {m : Msg} {l : List Msg} (hm : m ∈ l) : 0 < cnt m.id l :=
  count_pos_iff.mpr (mem_map_of_mem hm)

theorem ne_of_cnt_zero {i : String} {l : List Msg} (h0 : cnt i l = 0) {m : Msg} (hm : m ∈ l) : m.id ≠ i :=
  fun e => Nat.ne_of_gt (cnt_pos hm) (e ▸ h0)

def total (i : String) (q : Q) : Nat :=
  cnt i q.simple + cnt i (delayedMsgs q.delayed) + cnt i q.dead + cnt i (heldMsgs q) + cnt i q.acked
    + cnt i q.limbo

theorem total_eq_count_ids (i : String) (q : Q) : total i q = (ids q).count i := by
  simp only [total, ids, allMsgs, ← cnt.eq_1, cnt_append]

theorem total_eq_live (i : String) (q : Q) : total i q = live i q + cnt i q.acked + cnt i q.limbo := rfl

theorem perm_eraseP_of_find? {α} {p : α → Bool} {a : α} {l : List α} (h : l.find? p = some a) :
    l.Perm (a :: l.eraseP p) := by
  fun_induction find? with
  | case1 => nomatch h
  | case2 b l hb => rw [eraseP_cons_of_pos hb, Option.some.inj h]
  | case3 b l hb ih =>
    rw [eraseP_cons_of_neg (ne_true_of_eq_false hb)]
    exact ((ih h).cons b).trans (.swap ..)

/-- the right side is what the `enqueue` half of a requeue `introduces` -/
theorem cnt_eraseP (i : String) (m : Msg) (l : List Msg) :
    cnt i (l.eraseP (·.id == m.id)) + [m.id].count i
      = cnt i l + (if l.any (·.id == m.id) then [] else [m.id]).count i := by
  -- `simp +arith only`, here and wherever counts are compared: the lemmas turn both sides into sums
  -- of `cnt` atoms and `+arith` closes the linear identity in the same call.
  fun_induction eraseP with
  | case1 => rfl
  | case2 a l ha =>
    simp +arith only [cnt_cons, any_cons, eq_of_beq ha, beq_self_eq_true, Bool.true_or, ↓reduceIte, count_nil]
  | case3 a l ha ih => simp +arith only [cnt_cons, any_cons, ha, Bool.false_or, ← ih]

@[simp] theorem delayedMsgs_nil : delayedMsgs [] = [] := rfl
@[simp] theorem delayedMsgs_cons (e : Int × List Msg) (d : List (Int × List Msg)) :
    delayedMsgs (e :: d) = e.2 ++ delayedMsgs d := flatMap_cons

theorem cnt_dictAppend (i : String) (d : List (Int × List Msg)) (t : Int) (m : Msg) :
    cnt i (delayedMsgs (dictAppend d t m)) = cnt i (delayedMsgs d) + [m.id].count i := by
  fun_induction dictAppend <;>
    simp +arith only [delayedMsgs_cons, delayedMsgs_nil, cnt_append, cnt_cons, cnt_nil, *]

theorem cnt_filter_split (i : String) (d : List (Int × List Msg)) (p : Int × List Msg → Bool) :
    cnt i (delayedMsgs (d.filter p)) + cnt i (delayedMsgs (d.filter (fun e => !p e)))
      = cnt i (delayedMsgs d) := by
  rw [← cnt_append, delayedMsgs, delayedMsgs, ← flatMap_append]
  exact cnt_perm i ((filter_append_perm p d).flatMap_right _)

theorem cnt_popAt (i : String) (d : List (Int × List Msg)) (t : Int) :
    cnt i (delayedMsgs d) = cnt i (delayedMsgs (popAt d t).2) + cnt i (popAt d t).1.toList := by
  fun_induction popAt <;>
    simp +arith +zetaDelta only [delayedMsgs_cons, delayedMsgs_nil, cnt_append, cnt_cons, cnt_nil, Option.toList, *]

end Repid.Mem
