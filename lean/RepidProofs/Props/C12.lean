/-
C12 — Expired messages are never executed; live ones are never dropped (in-memory broker).
-/
import RepidModel.Pred.Broker
import RepidProofs.Proofs.MemStep

namespace Repid.C12
open Mem Pred.C12

/-- a normal-category poll that returns a message at `now` returns a non-expired one -/
theorem mem_no_expired_delivery (q : Q) (now : Int) (topics : List String) (m : Msg)
    (h : (pollNormal q now topics).1 = some m) :
    notExpiredAt now m.params.timestamp m.params.ttl = true := by
  revert h
  fun_cases pollNormal with
  | case4 x xs _ ho =>  -- the only branch that returns a message: its head was not overdue
    intro h
    cases h
    simpa only [notExpiredAt, Params.isOverdue, Bool.not_eq_true', Bool.not_eq_true] using ho
  | _ => exact fun h => nomatch h

/-- an expired message at the head of the queue is moved to the dead letters by that poll, is not
    returned, and from then on is what a DEAD-category poll can return -/
theorem mem_expired_to_dead (q : Q) (now : Int) (topics : List String) (m : Msg) (rest : List Msg)
    (hs : q.simple = m :: rest) (hexp : m.params.isOverdue now = true) :
    (pollNormal q now topics).1 = none ∧
    (pollNormal q now topics).2.dead = q.dead ++ [m] ∧
    (pollNormal q now topics).2.simple = rest := by
  simp [pollNormal, hs, hexp]

/-- …and it stays retrievable: a DEAD-category poll returns the head of the dead letters -/
theorem mem_dead_retrievable (q : Q) (m : Msg) (rest : List Msg) (hd : q.dead = m :: rest) :
    (pollDead q).1 = some m := by
  simp [pollDead, hd]

/-- a message still within its time-to-live (or without one) is never dead-lettered for that
    reason: whatever an atom adds to `dead` was either nacked by its holder or was overdue at the
    instant of the poll that moved it -/
theorem mem_live_not_dropped (cron : String → Int → Int) (q : Q) (op : Op) (m : Msg)
    (hnew : m ∈ (step cron q op).dead) (hold : m ∉ q.dead) :
    (∃ i, op = .nack i ∧ m.id = i) ∨
    (∃ c now topics, op = .poll c .normal now topics ∧ m.params.isOverdue now = true) := by
  cases op with
  | nack i =>
    simp only [step, nackA] at hnew
    split at hnew
    · next h hf =>
      cases List.mem_singleton.mp ((List.mem_append.mp hnew).resolve_left hold)
      exact .inl ⟨i, rfl, findHeld_id hf⟩
    · exact absurd hnew hold
  | poll c cat now topics =>
    obtain ⟨p, b, h⟩ := pollTake_frame q c cat now topics
    rw [step, h] at hnew
    revert hnew
    fun_cases poll
    · fun_cases pollNormal with
      | case2 x xs _ ho =>  -- the overdue head is the only message a normal poll adds to `dead`
        intro hnew
        cases List.mem_singleton.mp ((List.mem_append.mp hnew).resolve_left hold)
        exact .inr ⟨c, now, topics, rfl, ho⟩
      | _ => exact fun hnew => absurd hnew hold
    · fun_cases pollDelayed <;> exact fun hnew => absurd hnew hold
    · fun_cases pollDead
      · exact fun hnew => absurd hnew hold
      · next hd => exact fun hnew => absurd (hd ▸ .tail _ hnew) hold
  | update now => exact absurd hnew hold
  | put _ _ | reput _ _ | ack _ | reject _ | unhold _ | finish _ _ =>
    -- one branch point each, and `dead` is written on neither side
    simp only [step, put, reputA, ackA, rejectA, unholdA] at hnew
    split at hnew <;> exact absurd hnew hold

/-- boundary: exactly at expiry a message is still live; one microsecond later it is expired -/
theorem boundary (ts ttl : Int) :
    notExpiredAt (ts + ttl) ts (some ttl) = true ∧ notExpiredAt (ts + ttl + 1) ts (some ttl) = false := by
  simp [notExpiredAt, Sched.overdue]; omega

/-- rescheduling restarts the time-to-live clock (`timestamp := now`) … -/
theorem reschedule_restarts_clock (p : Params) (now : Int) (cron : String → Int → Int) (ttl : Int)
    (hp : p.ttl = some ttl) (hpos : 0 ≤ ttl) :
    (p.prepareReschedule now cron).isOverdue now = false := by
  simp [Params.prepareReschedule, Params.isOverdue, Sched.overdue, hp]; omega

/-- … a retry does not (same `timestamp`, same `ttl`). -/
theorem retry_keeps_clock (p : Params) (now d t : Int) :
    (p.prepareRetry now d).isOverdue t = p.isOverdue t := by
  simp [Params.prepareRetry, Params.isOverdue]

end Repid.C12
