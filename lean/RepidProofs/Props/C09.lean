/-
C09 — Concurrency never exceeds tasks_limit and the worker never stalls.
Model: RepidModel/Worker/Runner.lean (slot bookkeeping of `_Runner`, asyncio.Semaphore 3.12).
-/
import RepidProofs.Proofs.RunnerStep

namespace Repid.C09
open Runner

/-- slots are conserved; a consumer is blocked only while no slot is free or a wake-up chain is in
    progress; every started execution is finished or in flight -/
def Inv (r : R) : Prop :=
  r.free + r.tasks + r.handed + r.holding + r.leaked = r.limit ∧
  (0 < r.waiting → r.free = 0 ∨ 0 < r.handed) ∧
  r.started = r.processed + r.tasks

theorem inv_init (limit : Nat) (m : Option Nat) : Inv (init limit m) := by
  simp [Inv, init]

theorem inv_step (r : R) (e : Ev) (h : Inv r) : Inv (step r e) := by
  unfold Inv at h
  -- Conservation and `started`: every branch of `step` moves at most one unit between two counted
  -- fields, under a guard that the field it is taken from is positive.  The second conjunct can break
  -- only where `waiting` or `free` grows or `handed` shrinks: `waiting` grows (`enterAcquire`) only
  -- while the semaphore is locked, and then the invariant itself gives the conclusion; `free` grows
  -- (`done`, `cancelWaiter`) only when nobody waits; `handed` shrinks (`wake`, `cancelWaiter`) only
  -- when no slot is free or nobody waits — otherwise the slot goes to the next waiter.
  fun_cases step <;> simp only [Inv, afterDone_eq] <;> lia

theorem inv_run (r : R) (evs : List Ev) (h : Inv r) : Inv (run r evs) :=
  run_induction inv_step evs r h

/-- `inflight_le_limit`: for every tasks_limit, every messages_limit and EVERY sequence of
    deliveries, completions, wake-ups and cancellations — any arrival pattern, any durations, any
    number of queues — at most `tasks_limit` processing tasks (hence actor invocations) are in
    progress. -/
theorem inflight_le_limit (limit : Nat) (m : Option Nat) (evs : List Ev) :
    (run (init limit m) evs).tasks ≤ limit := by
  have h : _ = limit := run_limit _ evs ▸ (inv_run _ evs (inv_init limit m)).1
  omega

/-- `no_lost_wakeup`: in every reachable state a consumer loop is blocked in the semaphore's waiter
    list only if no slot is free, or a waiter has already been handed a slot and will pass a free one
    on when it resumes (`wake` is enabled) — a free slot with a blocked consumer and nobody to wake it
    cannot occur.  (A loop still inside `consumer.pause()` is not blocked: it calls acquire() itself —
    `enterAcquire` is enabled.) -/
theorem no_lost_wakeup (limit : Nat) (m : Option Nat) (evs : List Ev) :
    let r := run (init limit m) evs
    0 < r.waiting → r.free = 0 ∨ enabled r .wake = true := by
  intro r hw
  have := (inv_run _ evs (inv_init limit m)).2.1 hw
  simpa [enabled] using this

/-- `progress`: with a free slot and nobody queued, a delivered message starts at once;
    a completion with a blocked consumer hands it the slot in the same step (`pause_resume`). -/
theorem progress (r : R) :
    (r.free > 0 ∧ r.waiting = 0 ∧ r.handed = 0 → (step r .deliver).started = r.started + 1) ∧
    (0 < r.pausing → r.free > 0 ∧ r.waiting = 0 ∧ r.handed = 0 →
        (step r .enterAcquire).holding = r.holding + 1 ∧ enabled (step r .enterAcquire) .spawn = true) ∧
    (0 < r.holding → (step r .spawn).started = r.started + 1) ∧
    (0 < r.tasks → 0 < r.waiting → (step r .done).handed = r.handed + 1 ∧ (step r .done).waiting = r.waiting - 1) := by
  refine ⟨?_, ?_, ?_, ?_⟩
  · intro h; simp [step, h]
  · intro hp h
    have : ¬ r.pausing = 0 := by omega
    simp [step, this, h, enabled]
  · intro hh; simp [step, hh]
  · intro ht hw
    have : ¬ r.tasks = 0 := by omega
    simp [step, this, hw, afterDone_eq]

/-- every completion frees capacity: after `done` either a slot is free or a waiter holds one -/
theorem done_frees (r : R) (ht : 0 < r.tasks) :
    0 < (step r .done).free ∨ 0 < (step r .done).handed := by
  have : ¬ r.tasks = 0 := by omega
  simp only [step, this, if_false]
  by_cases hw : r.waiting > 0
  · right; simp [hw, afterDone_eq]
  · left; simp [hw, afterDone_eq]

-- Non-vacuity: limit 2, three deliveries, one completion, wake.
example : let r := run (init 2 none) [.deliver, .deliver, .deliver, .enterAcquire, .done, .wake, .spawn]
    r.tasks = 2 ∧ r.waiting = 0 ∧ r.started = 3 ∧ r.processed = 1 := by decide

end Repid.C09
