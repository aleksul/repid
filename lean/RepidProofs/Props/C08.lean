/-
C08 — Arguments bind to the actor signature identically under every converter.
Model: RepidModel/Conv/Bind.lean (`basicCall`, `pydanticCall`, CPython's `call`; SPEC `spec`).
-/
import RepidProofs.Proofs.ConvCall

namespace Repid.C08
open Conv

/-- payload entries never carry the name of a dependency parameter (such a payload makes Python reject
    the call with a duplicate keyword argument) -/
def NoDepKeys (s : Sig) (fields : List (String × V)) : Prop :=
  ∀ e ∈ fields, ∀ p ∈ s.named, p.isDep = true → e.1 ≠ p.name

def extras (s : Sig) (fields : List (String × V)) : List (String × V) :=
  fields.filter (fun e => !(s.payloadParams.map (·.name)).contains e.1)

theorem payloadParams_eq (s : Sig) (wf : WF s) :
    s.payloadParams = s.posOnly ++ (s.posOrKw ++ s.kwOnly).filter (!·.isDep) := by
  have h : s.posOnly.filter (!·.isDep) = s.posOnly :=
    List.filter_eq_self.mpr (fun p hp => by simp [posOnly_nondep wf p hp])
  simp [Sig.payloadParams, Sig.named, h]

theorem mapNamed_filter_error (fields : List (String × V)) (l : List P) (e : Err)
    (h : mapNamed (popOrDefault fields) (l.filter (!·.isDep)) = .error e) :
    mapNamed (specValue fields) l = .error e := by
  fun_induction List.filter with
  | case1 => cases h
  | case2 p rest hd ih =>
    -- no dependency: both runs evaluate `p` alike
    rw [mapNamed, popOrDefault_eq_spec fields p (Bool.not_eq_true' _ ▸ hd)] at h
    rw [mapNamed]
    revert h
    cases specValue fields p with
    | error e' => exact id
    | ok v =>
      cases hr : mapNamed (popOrDefault fields) (rest.filter (!·.isDep)) with
      | error e' => intro h; cases h; rw [ih hr]
      | ok r => nofun
  | case3 p rest hd ih =>
    -- a dependency: the converter skips it, and its SPEC value is no failure
    rw [mapNamed, specValue, if_pos (Bool.not_eq_false' _ ▸ hd), ih h]

theorem posOnly_error (s : Sig) (wf : WF s) (fields : List (String × V)) (e : Err)
    (h : mapE (popOrDefault fields) s.posOnly = .error e) :
    mapNamed (specValue fields) s.posOnly = .error e := by
  rw [← mapNamed_congr _ _ _ fun p hp => popOrDefault_eq_spec fields p (posOnly_nondep wf p hp),
    mapNamed_eq_zip, h]

theorem posOnly_ok (s : Sig) (wf : WF s) (fields : List (String × V)) (a : List V)
    (h : mapE (popOrDefault fields) s.posOnly = .ok a) :
    mapNamed (specValue fields) s.posOnly = .ok ((s.posOnly.map (·.name)).zip a) := by
  rw [← mapNamed_congr _ _ _ fun p hp => popOrDefault_eq_spec fields p (posOnly_nondep wf p hp),
    mapNamed_eq_zip, h]

theorem spec_unfold (s : Sig) (fields : List (String × V)) (payload : Option (List (String × V)))
    (hp : payload.getD [] = fields) :
    spec s payload =
      match mapNamed (specValue fields) s.named with
      | .error e => .error e
      | .ok N => .ok { named := N, star := if !s.varKw && s.varPos then (extras s fields).map (·.2) else [],
                       dstar := if s.varKw then extras s fields else [] } := by
  simp only [spec, hp]
  cases mapNamed (specValue fields) s.named <;> rfl

theorem named_error_of_parts (s : Sig) (fields : List (String × V)) (e : Err) :
    (mapNamed (specValue fields) s.posOnly = .error e ∨
     (∃ a, mapNamed (specValue fields) s.posOnly = .ok a ∧
        mapNamed (specValue fields) (s.posOrKw ++ s.kwOnly) = .error e)) →
    mapNamed (specValue fields) s.named = .error e := by
  intro h
  rw [Sig.named, List.append_assoc, mapNamed_append]
  rcases h with h | ⟨a, ha, hb⟩
  · rw [h]
  · rw [ha, hb]

/-- what `NoDepKeys` is for: an unmatched payload entry names no parameter at all, so `**kwargs` may take it -/
theorem extras_notMem {s : Sig} {fields : List (String × V)} (hdep : NoDepKeys s fields) :
    ∀ e ∈ extras s fields, e.1 ∉ (s.posOrKw ++ s.kwOnly).map (·.name) := by
  intro e he hm
  obtain ⟨q, hq, hqn⟩ := List.mem_map.1 hm
  obtain ⟨hef, hex⟩ := List.mem_filter.1 he
  -- named like a dependency: excluded by `hdep`; like another parameter: no extra
  cases hd : q.isDep with
  | true => exact hdep e hef q (mem_named hq) hd hqn.symm
  | false =>
    have : e.1 ∈ s.payloadParams.map (·.name) :=
      hqn ▸ List.mem_map_of_mem (List.mem_filter.2 ⟨mem_named hq, by rw [hd]; rfl⟩)
    simp [this] at hex

/-- the statement of `basic_binds_spec_partial` with `NoDepKeys` asked only of the actors it matters for: those
    with `**kwargs` -/
theorem basic_binds_spec (s : Sig) (wf : WF s) (fields : List (String × V))
    (hdep : s.varKw = true → NoDepKeys s fields)
    (hF6b : s.varPos = true → s.varKw = false → extras s fields ≠ [] → s.posOrKw = []) :
    basicCall s (some fields) = spec s (some fields) := by
  -- `rest` of the converter is `extras` of the spec
  have hrest : fields.filter (fun e =>
      !((s.posOnly ++ (s.posOrKw ++ s.kwOnly).filter (!·.isDep)).map (·.name)).contains e.1)
      = extras s fields := by rw [extras, payloadParams_eq s wf]
  rw [spec_unfold s fields (some fields) rfl]
  simp only [basicCall, wf.decl, basicConvert, hrest, Bool.not_true, Bool.false_eq_true, if_false, bind,
    Except.bind]
  -- a failure of the conversion is the failure the SPEC names
  cases ha : mapE (popOrDefault fields) s.posOnly with
  | error e => rw [named_error_of_parts s fields e (.inl (posOnly_error s wf fields e ha))]
  | ok args0 =>
    cases hk : mapNamed (popOrDefault fields) ((s.posOrKw ++ s.kwOnly).filter (!·.isDep)) with
    | error e =>
      rw [named_error_of_parts s fields e
        (.inr ⟨_, posOnly_ok s wf fields args0 ha, mapNamed_filter_error fields _ e hk⟩)]
    | ok kw0 =>
      -- the converter hands the extras to `**kwargs` if there is one, else to `*args`: as the SPEC says
      refine .trans ?_ (call_canonical wf hk (R := if s.varKw then extras s fields else [])
        (X := if !s.varKw && s.varPos then (extras s fields).map (·.2) else []) ?_ ha ?_ ?_)
      · cases s.varKw <;> cases s.varPos <;> simp
      · intro e he
        by_cases hvk : s.varKw = true
        · rw [if_pos hvk] at he; exact extras_notMem (hdep hvk) e he
        · rw [if_neg hvk] at he; cases he
      · -- keyword extras only with `**kwargs`
        cases s.varKw
        · exact .inl rfl
        · exact .inr rfl
      · -- positional extras only with `*args`, without `**kwargs`, and then (`hF6b`) no positional-or-keyword parameter
        cases hvk : s.varKw
        · cases hvp : s.varPos
          · exact .inl rfl
          · exact (Classical.em (extras s fields = [])).imp (fun h => by rw [h]; rfl) fun h => ⟨rfl, hF6b hvp hvk h⟩
        · exact .inl rfl

/-- **`basic_binds_spec_partial`** — for EVERY well-formed signature (any number of positional-only,
    positional-or-keyword and keyword-only parameters, with or without defaults, dependency parameters
    mixed in, `*args`, `**kwargs`) and EVERY non-empty payload (exact, missing keys, extra keys), the call
    made through `BasicConverter` binds exactly as the statement says: each parameter receives the payload
    entry of its name or else its declared default, entries without a matching parameter go only to the
    catch-all, a missing parameter without default fails the execution.
    PARTIAL: excluded is `*args` without `**kwargs` together with a positional-or-keyword parameter and an
    unmatched payload entry (known finding F6b, `basic_varargs_collision_witness`). -/
theorem basic_binds_spec_partial (s : Sig) (wf : WF s) (fields : List (String × V))
    (hdep : NoDepKeys s fields)
    (hF6b : s.varPos = true → s.varKw = false → extras s fields ≠ [] → s.posOrKw = []) :
    basicCall s (some fields) = spec s (some fields) :=
  basic_binds_spec s wf fields (fun _ => hdep) hF6b

/-- Refutation of the excluded case on the current code: `f(a, *args)` with payload {"a": 1, "x": 9} is
    called as `f(9, a=1)` — TypeError "multiple values" — instead of `f(1, 9)`. -/
theorem basic_varargs_collision_witness :
    let s : Sig := { posOrKw := [{ name := "a" }], varPos := true }
    let fields := [("a", V.json "1"), ("x", V.json "9")]
    basicCall s (some fields) = .error (.multiple "a") ∧
    spec s (some fields) = .ok { named := [("a", .json "1")], star := [.json "9"], dstar := [] } := by
  decide

/-- on the empty payload the pydantic converter validates `{}` -/
theorem pydanticCall_eq_basicCall (s : Sig) (hsup : s.varPos = false ∧ s.varKw = false)
    (payload : Option (List (String × V))) : pydanticCall s payload = basicCall s (some (payload.getD [])) := by
  simp only [pydanticCall, pydanticDeclOk, pydanticConvert, basicCall, basicConvert, hsup.1, hsup.2, Bool.not_false,
    Bool.and_true, Bool.false_eq_true, if_false]

/-- `pydantic_binds_spec`: the same for `PydanticConverter` on every signature it supports (no `*args` /
    `**kwargs`): unmatched payload entries are ignored, everything else as the statement says — for the empty
    payload too (`fix:` 6b4d5d8). -/
theorem pydantic_binds_spec (s : Sig) (wf : WF s) (hsup : s.varPos = false ∧ s.varKw = false)
    (payload : Option (List (String × V))) :
    pydanticCall s payload = spec s payload := by
  rw [pydanticCall_eq_basicCall s hsup]
  exact basic_binds_spec s wf _ (fun h => nomatch hsup.2.symm.trans h) fun h => nomatch hsup.1.symm.trans h

/-- a job enqueued WITHOUT arguments: `BasicConverter` passes nothing and Python's own defaults apply —
    which is again the specification (every parameter gets its default, a parameter without default fails) -/
theorem basic_no_args_binds_spec (s : Sig) (wf : WF s) : basicCall s none = spec s none := by
  have hb : basicCall s none = call s [] (depKwargs s) := by
    simp only [basicCall, wf.decl, basicConvert, List.nil_append, Bool.not_true, Bool.false_eq_true, if_false]
  rw [hb, spec_unfold s [] none rfl, call_depKwargs wf]
  cases mapNamed (specValue []) s.named with
  | error e => rfl
  | ok N => cases s.varKw <;> cases s.varPos <;> rfl

/-- `converters_agree`: on every signature both converters support (no `*args` / `**kwargs`) and every
    payload without dependency-named keys, empty or not, the basic and the pydantic converter call the actor
    with equal arguments -/
theorem converters_agree (s : Sig) (wf : WF s) (hsup : s.varPos = false ∧ s.varKw = false)
    (payload : Option (List (String × V))) (hdep : ∀ f, payload = some f → NoDepKeys s f) :
    basicCall s payload = pydanticCall s payload := by
  -- on a payload the two converters are one function; without one both meet the SPEC
  cases payload with
  | none => exact (basic_no_args_binds_spec s wf).trans (pydantic_binds_spec s wf hsup none).symm
  | some f => exact (pydanticCall_eq_basicCall s hsup (some f)).symm

theorem mapNamed_ok_all (g : P → Except Err V) (l : List P) (r : List (String × V))
    (h : mapNamed g l = .ok r) : ∀ p ∈ l, ∃ v, g p = .ok v := by
  obtain ⟨f, hf, -⟩ := mapNamed_eq_ok.1 h
  exact fun p hp => ⟨f p, hf p hp⟩

/-- `missing_required_fails`: a payload lacking a parameter that has no default never runs the actor (the
    specified outcome is a failure) — and, by the theorems above, neither converter runs it -/
theorem missing_required_fails (s : Sig) (payload : Option (List (String × V))) (p : P) (hp : p ∈ s.named)
    (hnd : p.isDep = false) (hreq : p.hasDefault = false) (hmiss : lookup p.name (payload.getD []) = none) :
    ∀ b, spec s payload ≠ .ok b := by
  intro b hb
  rw [spec_unfold s (payload.getD []) payload rfl] at hb
  cases hm : mapNamed (specValue (payload.getD [])) s.named with
  | error e => simp [hm] at hb
  | ok N =>
    obtain ⟨v, hv⟩ := mapNamed_ok_all _ _ _ hm p hp
    simp [specValue, hnd, hmiss, hreq] at hv

/-- `no_args_runs_defaults`: a job enqueued without arguments runs any actor whose parameters all have
    defaults (or are dependencies): the specified outcome is a call with every default -/
theorem no_args_runs_defaults (s : Sig) (hall : ∀ p ∈ s.named, p.isDep = true ∨ p.hasDefault = true) :
    ∃ b, spec s none = .ok b := by
  rw [spec_unfold s [] none rfl, mapNamed_eq_ok.2 ⟨_, fun p hp => specValue_nil (hall p hp), rfl⟩]
  exact ⟨_, rfl⟩

-- Non-vacuity of the hypotheses: f(a, /, b, c=…, *, d: Depends, e=…, **kw) with extra and missing keys.
example :
    let s : Sig := { posOnly := [{ name := "a" }], posOrKw := [{ name := "b" }, { name := "c", hasDefault := true }],
                     kwOnly := [{ name := "d", isDep := true }, { name := "e", hasDefault := true }], varKw := true }
    let fields := [("b", V.json "2"), ("zz", V.json "0"), ("a", V.json "1")]
    (s.named.map (·.name)).Nodup ∧ declOk s = true ∧
    basicCall s (some fields) = .ok { named := [("a", .json "1"), ("b", .json "2"), ("c", .dflt "c"), ("d", .dep "d"), ("e", .dflt "e")],
                                      star := [], dstar := [("zz", .json "0")] } := by
  decide

/-- outside the excluded point the checked call IS the call: a payload without dependency-named keys never collides -/
theorem basicCallChecked_eq (s : Sig) (payload : Option (List (String × V)))
    (hdep : ∀ f, payload = some f → NoDepKeys s f) : basicCallChecked s payload = basicCall s payload := by
  have hnone : depKeyCollision s payload = none := by
    fun_cases depKeyCollision with
    | case2 fields hvk =>
      -- a `**kwargs` actor: no entry of the payload is a key of `depKwargs s`
      refine congrArg (Option.map _) (List.find?_eq_none.2 fun e he hk => ?_)
      obtain ⟨x, hx, hn⟩ := List.mem_map.1 (hasKey_iff.1 hk)
      obtain ⟨q, hq, rfl⟩ := List.mem_map.1 hx
      obtain ⟨hq, hd⟩ := List.mem_filter.1 hq
      exact hdep fields rfl e he q hq hd hn.symm
    | _ => rfl
  -- rejected declaration, failed conversion, collision (there is none), the call itself
  fun_cases basicCallChecked with
  | case1 hd => rw [basicCall, if_pos hd]
  | case2 hd e hc => rw [basicCall, if_neg hd, hc]
  | case3 _ _ _ k hk => rw [hnone] at hk; cases hk
  | case4 => rfl

/-- `dep_key_collision_fails` — the point the main theorem excludes (`NoDepKeys`): a payload entry named like a dependency
    parameter, sent to a `**kwargs` actor, never reaches the actor body — the call is rejected (repeated keyword), the
    execution fails; so no invocation sees a dependency parameter replaced by payload data -/
theorem dep_key_collision_fails (s : Sig) (fields : List (String × V)) (k : String)
    (hc : depKeyCollision s (some fields) = some k) : ∃ e, basicCallChecked s (some fields) = .error e := by
  fun_cases basicCallChecked
  -- the one branch that is no failure finds no collision
  case case4 hn => rw [hc] at hn; cases hn
  all_goals exact ⟨_, rfl⟩

-- the excluded point is inhabited
example : depKeyCollision { posOrKw := [{ name := "x" }, { name := "d", isDep := true, hasDefault := true }], varKw := true }
    (some [("x", .json "1"), ("d", .json "\"from-payload\"")]) = some "d" := by decide

end Repid.C08
