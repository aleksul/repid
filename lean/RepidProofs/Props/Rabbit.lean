/-
RabbitMQ broker — the RabbitMQ clauses of C01, C03, C05, C12, C15.
Model: RepidModel/Broker/Rabbit.lean (repid's broker/consumer logic over an abstract AMQP server, assumption set A).
-/
import RepidModel.Broker.Rabbit

namespace Repid.RabbitProofs
open Rabbit

theorem get_set (s : S) (q : Qn) (l : List Msg) : (s.set q l).get q = l := by cases q <;> rfl
theorem set_set (s : S) (q : Qn) (l l' : List Msg) : (s.set q l).set q l' = s.set q l' := by cases q <;> rfl
theorem set_consumers (s : S) (q : Qn) (l : List Msg) : (s.set q l).consumers = s.consumers := by cases q <;> rfl
theorem set_unacked (s : S) (q : Qn) (l : List Msg) : (s.set q l).unacked = s.unacked := by cases q <;> rfl
theorem set_dropped (s : S) (q : Qn) (l : List Msg) : (s.set q l).dropped = s.dropped := by cases q <;> rfl
theorem deadLetter_consumers (s : S) (q : Qn) (m : Msg) : (deadLetter s q m).consumers = s.consumers := by
  cases q <;> rfl
theorem deadLetter_unacked (s : S) (q : Qn) (m : Msg) : (deadLetter s q m).unacked = s.unacked := by
  cases q <;> rfl

theorem onMessage_nackDead {c : Cons} {m : Msg} {now : Int} (h : onMessage c m now = .nackDead) : c.cat = .main := by
  revert h
  fun_cases onMessage
  case case2 _ h2 =>
    simp only [Bool.and_eq_true, beq_iff_eq] at h2
    exact fun _ => h2.2
  all_goals exact fun h => nomatch h

theorem ack_eq (s : S) (id : String) : ack s id = { s with unacked := s.unacked.filter fun x => !(x.2.2.id == id) } := by
  unfold ack
  fun_cases takeUnacked
  case case1 => rfl
  case case2 hf =>
    -- nothing to take out: the filter keeps the whole list
    rw [List.filter_eq_self.mpr fun x hx => by simpa using List.find?_eq_none.mp hf x hx]

theorem nack_eq (s : S) (id : String) : nack s id =
    match s.unacked.find? (·.2.2.id == id) with
    | some (_, q, m) => deadLetter (ack s id) q m
    | none => s := by
  unfold nack ack takeUnacked
  rcases List.find? _ s.unacked with _ | ⟨_, _, _⟩ <;> rfl

theorem reject_eq (s : S) (id : String) : reject s id =
    match s.unacked.find? (·.2.2.id == id) with
    | some (_, q, m) => (ack s id).set q (Rabbit.insert m ((ack s id).get q))
    | none => s := by
  unfold reject ack takeUnacked
  rcases List.find? _ s.unacked with _ | ⟨_, _, _⟩ <;> rfl

/-- `reject` is `ack` followed by a change of one queue -/
theorem reject_set (s : S) (id : String) : ∃ q l, reject s id = (ack s id).set q l := by
  unfold reject ack
  rcases takeUnacked s id with ⟨s', _ | ⟨_, q, m⟩⟩
  · exact ⟨.main, s'.main, rfl⟩  -- nothing found: no queue changes
  · exact ⟨q, _, rfl⟩

theorem reject_dropped (s : S) (id : String) : (reject s id).dropped = s.dropped := by
  obtain ⟨q, l, h⟩ := reject_set s id
  rw [h, set_dropped, ack_eq]

theorem reject_consumers (s : S) (id : String) : (reject s id).consumers = s.consumers := by
  obtain ⟨q, l, h⟩ := reject_set s id
  rw [h, set_consumers, ack_eq]

theorem reject_unacked (s : S) (id : String) : (reject s id).unacked = s.unacked.filter fun x => !(x.2.2.id == id) := by
  obtain ⟨q, l, h⟩ := reject_set s id
  rw [h, set_unacked, ack_eq]

theorem filter_ne_id {l : List (Nat × Qn × Msg)} {id : String} {x : Nat × Qn × Msg}
    (hx : x ∈ l.filter fun x => !(x.2.2.id == id)) : x.2.2.id ≠ id := by
  simpa using (List.mem_filter.mp hx).2

theorem mem_reject_unacked {s : S} {id : String} {e : Nat × Qn × Msg} (h : e ∈ (reject s id).unacked) :
    e ∈ s.unacked ∧ e.2.2.id ≠ id := by
  rw [reject_unacked] at h
  exact ⟨(List.mem_filter.mp h).1, filter_ne_id h⟩

/-! ### C05 — delays -/

/-- the expiration the code computes never lets a message out more than one millisecond before its execution time,
    for every position of now and of the due time inside their milliseconds, including the case where the float
    product falls just short of a whole number -/
theorem expiry_not_early (now due ms : Int) (h : millisOk (due - now) ms = true) : now + ms * 1000 ≥ due - 1000 := by
  simp only [millisOk, decide_eq_true_eq] at h
  omega

/-- and never later than it: the delay in the delayed queue itself ends by the execution time -/
theorem expiry_not_late (now due ms : Int) (h : millisOk (due - now) ms = true) : now + ms * 1000 ≤ due := by
  simp only [millisOk, decide_eq_true_eq] at h
  omega

/-- `expireHeads` does something only when the head of the delayed queue is due -/
theorem expireHeads_ne {now : Int} {fuel : Nat} {s : S} (h : expireHeads now fuel s ≠ s) :
    ∃ m rest t, s.delayed = m :: rest ∧ m.expiresAt = some t ∧ t ≤ now := by
  fun_induction expireHeads with
  | case2 s fuel m rest hd t ht hle => exact ⟨m, rest, t, hd, ht, hle⟩
  | _ => exact absurd rfl h

/-- `head_blocks`: while the head of the delayed queue is not due, NOTHING behind it leaves the queue — however long
    the other messages have been due (per-message TTL fires only at the head).  This is the mechanism of F21. -/
theorem head_blocks (s : S) (m : Msg) (rest : List Msg) (t now : Int) (fuel : Nat)
    (hd : s.delayed = m :: rest) (ht : m.expiresAt = some t) (hnot : now < t) :
    expireHeads now fuel s = s := by
  refine Decidable.byContradiction fun h => ?_
  obtain ⟨m', rest', t', hd', ht', hle⟩ := expireHeads_ne h
  cases hd.symm.trans hd'
  cases ht.symm.trans ht'
  omega

/-- recorded finding F21, concretely: `short` is due at 2 s, `long` (published first) at 3600 s; at 10 s a settle
    delivers nothing -/
theorem rabbit_head_of_line_witness :
    let long : Msg := { id := "long", topic := "t", prio := 5, payload := "", params := {} }
    let short : Msg := { id := "short", topic := "t", prio := 5, payload := "", params := {} }
    let s0 : S := { consumers := [(0, { cat := .main })] }
    let s := publish (publish s0 long (some 3600000) 0) short (some 2000) 0
    (settle s 10000000).main = [] ∧ ((settle s 10000000).delayed.map (·.id)) = ["long", "short"] ∧
    (settle s 10000000).unacked = [] := by decide

/-- what leaves the delayed queue through `expireHeads` was due (expiresAt ≤ now): the delayed queue never shrinks
    otherwise -/
theorem expire_step_due (s : S) (m : Msg) (rest : List Msg) (now : Int) (fuel : Nat) (hd : s.delayed = m :: rest)
    (h : expireHeads now (fuel + 1) s ≠ s) : ∃ t, m.expiresAt = some t ∧ t ≤ now := by
  obtain ⟨m', rest', t, hd', ht, hle⟩ := expireHeads_ne h
  cases hd.symm.trans hd'
  exact ⟨t, ht, hle⟩

/-! ### C12 — time-to-live -/

/-- `on_new_message` without topic filter: a message whose ttl has run out is dead-lettered when it reaches a consumer
    of the NORMAL category, held otherwise -/
theorem onMessage_spec (c : Cons) (m : Msg) (now : Int) (ht : c.topics = []) :
    onMessage c m now = if m.params.isOverdue now && c.cat == .main then .nackDead else .hold := by
  simp [onMessage, ht]

/-- `rabbit_no_expired_handover`: whatever waits in the local (prefetch) queue, and for however long, `consume()` of a
    NORMAL-category consumer never hands over a message whose ttl has run out -/
theorem rabbit_no_expired_handover (now : Int) : ∀ (fuel : Nat) (s s' : S) (cid : Nat) (m : Msg),
    consume now .main fuel s cid = (s', some m) → m.params.isOverdue now = false := by
  intro fuel s s' cid m
  fun_induction consume
  -- an overdue head is nacked and the next one looked at: the induction hypothesis
  case case2 ih => exact ih
  case case3 hno =>
    intro h
    cases (Prod.mk.inj h).2
    simpa using hno
  all_goals exact fun h => nomatch h

/-- consumers of the other categories (dead letters, delayed) are handed whatever they were sent -/
theorem rabbit_dead_letters_retrievable (now : Int) (fuel : Nat) (s : S) (cid : Nat) (c : Cons) (m : Msg) (rest : List Msg)
    (hf : s.consumers.find? (·.1 == cid) = some (cid, c)) (hl : c.loc = m :: rest) :
    consume now .dead (fuel + 1) s cid = (setCons s cid { c with loc := rest }, some m) := by
  simp [consume, hf, hl]

/-! ### C15 — first in, first out within a priority -/

/-- a later arrival of the same (capped) priority goes behind everything already waiting with that priority or a
    higher one -/
theorem insert_after_equal_or_higher (m : Msg) (l : List Msg)
    (h : ∀ x ∈ l, cap m.prio < cap x.prio ∨ (cap x.prio = cap m.prio ∧ x.seq < m.seq)) : Rabbit.insert m l = l ++ [m] := by
  fun_induction Rabbit.insert with
  | case1 => rfl
  | case2 x rest hlt =>
    -- `m` would go in front of `x`
    have := h x List.mem_cons_self
    omega
  | case3 x rest _ ih => rw [ih fun y hy => h y (List.mem_cons_of_mem x hy)]; rfl

/-- the head of a queue is what the server delivers next: with equal priorities that is the earliest arrival -/
theorem fifo_two (a b : Msg) (h : cap a.prio = cap b.prio) (hs : a.seq < b.seq) :
    Rabbit.insert b (Rabbit.insert a []) = [a, b] ∧ Rabbit.insert a (Rabbit.insert b []) = [a, b] := by
  constructor
  · exact insert_after_equal_or_higher b [a] (List.forall_mem_singleton.mpr (.inr ⟨h, hs⟩))
  · exact if_pos (.inr ⟨h.symm, hs⟩)

/-! ### C01 — terminal calls -/

/-- reject returns the message to the queue (category) it was delivered from -/
theorem rabbit_reject_origin (s : S) (id : String) (c : Nat) (q : Qn) (m : Msg)
    (h : s.unacked.find? (·.2.2.id == id) = some (c, q, m)) :
    (reject s id).get q = Rabbit.insert m (s.get q) ∧ (∀ x ∈ (reject s id).unacked, x.2.2.id ≠ id) := by
  refine ⟨?_, fun x hx => (mem_reject_unacked hx).2⟩
  rw [reject_eq, h, get_set, ack_eq]
  rfl

/-- ack removes the message from the consumer's unacknowledged set; no queue changes -/
theorem rabbit_ack_removes (s : S) (id : String) :
    (ack s id).main = s.main ∧ (ack s id).delayed = s.delayed ∧ (ack s id).dead = s.dead ∧
    (∀ x ∈ (ack s id).unacked, x.2.2.id ≠ id) := by
  rw [ack_eq]
  exact ⟨rfl, rfl, rfl, fun x hx => filter_ne_id hx⟩

/-- recorded finding F2r: after the first of the two round trips of `requeue` the message is in no place -/
theorem rabbit_requeue_window_witness :
    let m : Msg := { id := "w", topic := "t", prio := 5, payload := "", params := {} }
    let s : S := { unacked := [(0, .main, m)], consumers := [(0, { cat := .main })] }
    places s "w" = 1 ∧
    places (((requeueAtoms m none 0).take 1).foldl (fun acc f => f acc) s) "w" = 0 ∧
    places (requeue s m none 0) "w" = 1 := by decide

/-- recorded finding F23: nack of a message held from the DELAYED category puts it into the main queue (deliverable at
    once, whatever its execution time); nack of one held from the DEAD category discards it -/
theorem rabbit_nack_nonnormal_witness :
    let m : Msg := { id := "x", topic := "t", prio := 5, payload := "", params := {}, expiresAt := some 3600000000 }
    ((nack { unacked := [(1, .delayed, m)] } "x").main.map (·.id)) = ["x"] ∧
    ((nack { unacked := [(2, .dead, m)] } "x").dropped.map (·.id)) = ["x"] ∧
    places (nack { unacked := [(2, .dead, m)] } "x") "x" = 0 := by decide

/-- nack of a message held from the NORMAL category dead-letters it -/
theorem rabbit_nack_dead_letters (s : S) (id : String) (c : Nat) (m : Msg)
    (h : s.unacked.find? (·.2.2.id == id) = some (c, .main, m)) :
    (nack s id).dead = Rabbit.insert { m with expiresAt := none, seq := s.seq + 1 } s.dead ∧ (nack s id).main = s.main := by
  rw [nack_eq, h, ack_eq]
  exact ⟨rfl, rfl⟩

end Repid.RabbitProofs
