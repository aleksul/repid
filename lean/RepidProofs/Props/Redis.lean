/-
Redis broker — the Redis clauses of C01, C03, C05, C12, C14, C15.
Model: RepidModel/Broker/Redis.lean (one queue name; every round trip / MULTI…EXEC an atom).
-/
import RepidProofs.Proofs.RedisCount

namespace Repid.RedisProofs
open Redis

theorem setHash_frame {β : Type} (f : R → β) (hf : ∀ r hs, f { r with hashes := hs } = f r) (r : R) (k : Nat × String)
    (h : Hash) : f (setHash r k h) = f r := by
  fun_cases setHash <;> exact hf _ _

@[simp] theorem setHash_normal (r : R) (k : Nat × String) (h : Hash) : (setHash r k h).normal = r.normal :=
  setHash_frame R.normal (fun _ _ => rfl) r k h
@[simp] theorem setHash_delayed (r : R) (k : Nat × String) (h : Hash) : (setHash r k h).delayed = r.delayed :=
  setHash_frame R.delayed (fun _ _ => rfl) r k h
@[simp] theorem setHash_dead (r : R) (k : Nat × String) (h : Hash) : (setHash r k h).dead = r.dead :=
  setHash_frame R.dead (fun _ _ => rfl) r k h
@[simp] theorem setHash_processing (r : R) (k : Nat × String) (h : Hash) : (setHash r k h).processing = r.processing :=
  setHash_frame R.processing (fun _ _ => rfl) r k h
@[simp] theorem normHash_normal (r : R) : (normHash r).normal = r.normal := rfl
@[simp] theorem normHash_delayed (r : R) : (normHash r).delayed = r.delayed := rfl
@[simp] theorem normHash_dead (r : R) : (normHash r).dead = r.dead := rfl
@[simp] theorem normHash_processing (r : R) : (normHash r).processing = r.processing := rfl
@[simp] theorem takeTx_processing (r : R) (cat : Marker) (prio : Nat) (short : String) (nowSec : Int) :
    (takeTx r cat prio short nowSec).processing = zadd r.processing short nowSec := by
  cases cat <;> exact setHash_processing _ _ _

/-- `__unmark_processing` moves nothing and ends the hold; `simp` takes the four clauses as rewriting rules -/
theorem unmark_lists (r : R) (k : Key) :
    (unmark r k).normal = r.normal ∧ (unmark r k).delayed = r.delayed ∧ (unmark r k).dead = r.dead ∧
    (∀ s, (k.short, s) ∉ (unmark r k).processing) := by
  simp [unmark, zrem_not_mem]

/-! ### C15 — the oldest matching waiting message is taken first -/

/-- the fetch window is not empty (`PREFETCH_AMOUNT`, extracted from the live class on every run: with 0 the consumer's
    window loop would never advance) -/
theorem prefetch_pos : 0 < prefetch := by decide

theorem fetchList_oldest (topics : List String) : ∀ (fuel : Nat) (rev : List String), rev.length < fuel →
    fetchList topics fuel rev = rev.find? (matchesTopics topics) := by
  intro fuel rev h
  -- the window is a prefix of what is searched
  have window (rev : List String) : rev.find? (matchesTopics topics) =
      ((windowOrder (rev.take prefetch)).find? (matchesTopics topics)).or
        ((rev.drop prefetch).find? (matchesTopics topics)) := by
    rw [windowOrder, ← List.find?_append, List.take_append_drop]
  fun_induction fetchList with
  | case1 => omega
  | case2 => rfl
  | case3 _ rev _ x hx => rw [window rev, hx]; rfl
  | case4 fuel rev hne hx ih =>
    rw [window rev, hx]
    refine ih ?_
    rw [List.length_drop]
    exact Nat.lt_of_lt_of_le (Nat.sub_lt (List.length_pos_iff.mpr hne) prefetch_pos) (Nat.le_of_lt_succ h)

theorem fetchNormal_oldest (r : R) (cat : Marker) (prio : Nat) (topics : List String) :
    fetchNormal r cat prio topics =
      (view (if cat = .dead then r.dead else r.normal) prio).reverse.find? (matchesTopics topics) :=
  fetchList_oldest topics _ _ (by simp)

/-- `redis_fifo`: a normal consumer takes the OLDEST waiting name of the priority that matches its topics — for every
    list length (shorter or longer than the fetch window) and every mix of matching and foreign names; by
    `fetchNormal_oldest` a dead-letter consumer reads its list in the same way -/
theorem redis_fifo (r : R) (prio : Nat) (topics : List String) :
    fetchNormal r .n prio topics = (view r.normal prio).reverse.find? (matchesTopics topics) :=
  fetchNormal_oldest r .n prio topics

theorem view_append (a b : List (Nat × String)) (p : Nat) : view (a ++ b) p = view a p ++ view b p := by
  simp [view]

/-- later arrivals (LPUSH) never overtake: whatever is enqueued, the name that would be taken stays the same -/
theorem enqueue_does_not_overtake (r : R) (k : Key) (prio : Nat) (topics : List String) (x : String)
    (h : fetchNormal r .n prio topics = some x) :
    fetchNormal (put r k none false) .n prio topics = some x := by
  rw [redis_fifo] at h ⊢
  show (view ([(k.prio, k.short)] ++ r.normal) prio).reverse.find? _ = _
  rw [view_append, List.reverse_append, List.find?_append, h]
  rfl

/-- a returned message (reject / requeue: RPUSH at the consuming end) is taken before everything that waits -/
theorem returned_is_next (r : R) (k : Key) (topics : List String) (hm : matchesTopics topics k.short = true) :
    fetchNormal (put r k none true) .n k.prio topics = some k.short := by
  rw [redis_fifo]
  simp [put, view, hm]

/-! ### C05 — never early -/

theorem ceilSecs_le_secs (t now : Int) (h : ceilSecs t ≤ secs now) : t ≤ now := by
  simp only [ceilSecs, secs, usPerSec] at h
  omega

theorem zinsert_perm (e : String × Int) (l : List (String × Int)) : (zinsert e l).Perm (e :: l) := by
  fun_induction zinsert with
  | case1 | case2 => exact .refl _
  | case3 x rest _ ih => exact (ih.cons x).trans (.swap e x rest)

theorem zsorted_perm (z : List (String × Int)) : (zsorted z).Perm z := by
  induction z with
  | nil => exact .refl _
  | cons y rest ih => exact (zinsert_perm y _).trans (ih.cons y)

theorem mem_zview (r : R) (prio : Nat) (x : String) (s : Int) : (x, s) ∈ zview r prio ↔ ((prio, x), s) ∈ r.delayed := by
  rw [zview, (zsorted_perm _).mem_iff]
  simp only [List.mem_map, List.mem_filter, beq_iff_eq]
  constructor
  · rintro ⟨⟨⟨p, n⟩, t⟩, ⟨he, rfl⟩, h⟩
    cases h; exact he
  · exact fun h => ⟨_, ⟨h, rfl⟩, rfl⟩

/-- what a NORMAL-category consumer takes out of the delayed set has a score that is not in the future -/
theorem fetchDelayed_due (r : R) (prio : Nat) (topics : List String) (nowSec : Int) (x : String)
    (h : fetchDelayed r prio topics nowSec false = some x) :
    ∃ s, ((prio, x), s) ∈ r.delayed ∧ s ≤ nowSec := by
  have hx := List.mem_of_find?_eq_some h
  simp only [Bool.false_or, List.mem_map, List.mem_filter, decide_eq_true_eq] at hx
  obtain ⟨⟨n, s⟩, ⟨hmem, hs⟩, rfl⟩ := hx
  exact ⟨s, (mem_zview ..).mp hmem, hs⟩

/-- `redis_never_early`: a message stored with the score of its due time (what `enqueue`, `requeue` and `reject` do:
    `waitScore`) is never handed to a normal consumer before that time — whatever the position of the due time and of
    the current time inside their clock seconds -/
theorem redis_never_early (r : R) (prio : Nat) (topics : List String) (now due : Int) (x : String)
    (h : fetchDelayed r prio topics (secs now) false = some x)
    (hscore : ∀ s, ((prio, x), s) ∈ r.delayed → s = ceilSecs due) : due ≤ now := by
  obtain ⟨s, hm, hs⟩ := fetchDelayed_due r prio topics (secs now) x h
  rw [hscore s hm] at hs
  exact ceilSecs_le_secs _ _ hs

/-- `redis_due_is_fetched` ("never forgotten", one poll): if a delayed message of the polled priority is due (its score is
    not in the future) and matches the consumer's topics, a poll of a NORMAL-category consumer takes some delayed message
    — the delayed set is looked at before the normal list, and nothing due is skipped over for ever -/
theorem redis_due_is_fetched (r : R) (prio : Nat) (topics : List String) (nowSec : Int) (x : String) (s : Int)
    (hm : ((prio, x), s) ∈ r.delayed) (hs : s ≤ nowSec) (ht : matchesTopics topics x = true) :
    (fetchDelayed r prio topics nowSec false).isSome = true := by
  rw [fetchDelayed, List.find?_isSome]
  refine ⟨x, ?_, ht⟩
  simp only [Bool.false_or, List.mem_map, List.mem_filter, decide_eq_true_eq]
  exact ⟨(x, s), ⟨(mem_zview ..).mpr hm, hs⟩, rfl⟩

/-- the score `enqueue` stores is the rounded-up due time -/
theorem enqueue_score (p : Params) (now due : Int) (cronNext : String → Int → Int)
    (h : p.waitUntil now cronNext = some due) : waitScore p now cronNext = some (ceilSecs due) := by
  simp [waitScore, h]

/-- a message without due time goes to the normal list, one with a due time only to the delayed set -/
theorem delayed_only_visible_in_delayed (r : R) (k : Key) (s : Int) (inFront : Bool) :
    (put r k (some s) inFront).normal = r.normal ∧ (put r k (some s) inFront).dead = r.dead := by
  simp [put]

/-- the witness of the repaired defect: with truncated scores a message due at 10.4 s was taken at 10.0 s -/
theorem truncated_score_early_witness : secs 10400000 ≤ secs 10000000 ∧ ¬ (10400000 : Int) ≤ 10000000 ∧
    ¬ ceilSecs 10400000 ≤ secs 10000000 := by decide

/-! ### C14 — the take transaction; the race of two consumers -/

/-- the recorded defect F12: two consumers that both read before either takes are both handed the message -/
theorem redis_take_race_witness :
    let r0 : R := { normal := [(5, "t:a")], hashes := [((5, "t:a"), { payload := some "{}", params := some {} })] }
    fetchNormal r0 .n 5 [] = some "t:a" ∧                       -- consumer 1 reads
    fetchNormal r0 .n 5 [] = some "t:a" ∧                       -- consumer 2 reads (nothing has changed yet)
    (details (takeTx r0 .n 5 "t:a" 0) 5 "t:a").2.isSome ∧       -- consumer 1 takes and gets the message
    (details (takeTx (takeTx r0 .n 5 "t:a" 0) .n 5 "t:a" 0) 5 "t:a").2.isSome ∧   -- so does consumer 2
    (takeTx (takeTx r0 .n 5 "t:a" 0) .n 5 "t:a" 0).processing.length = 1 := by decide

/-- `redis_take_removes_partial`: when the take transactions of different consumers do not interleave with each
    other's reads (hypothesis: each consumer's read and take happen back to back), a name that waits once is gone
    from the list after the take — a second consumer cannot read it -/
theorem redis_take_removes_partial (r : R) (prio : Nat) (short : String) (nowSec : Int)
    (h : r.normal.count (prio, short) = 1) : (prio, short) ∉ (takeTx r .n prio short nowSec).normal := by
  have : (prio, short) ∉ lremLast r.normal (prio, short) :=
    List.count_eq_zero.mp (by rw [lremLast_count_self, h])
  simpa [takeTx] using this

/-- the take marks the message as held (processing) with the time of the take -/
theorem take_marks_processing (r : R) (cat : Marker) (prio : Nat) (short : String) (nowSec : Int) :
    (short, nowSec) ∈ (takeTx r cat prio short nowSec).processing := by
  rw [takeTx_processing]; exact zadd_mem

/-! ### C01 — what each terminal call does with a held message -/

/-- ack: the message is in no queue and not held any more, its data is deleted -/
theorem redis_ack_removes (r : R) (k : Key) :
    (∀ s, (k.short, s) ∉ (ackTx r k).processing) ∧ (ackTx r k).normal = r.normal ∧ (ackTx r k).delayed = r.delayed ∧
    (ackTx r k).dead = r.dead ∧ getHash (ackTx r k) (k.prio, k.short) = {} := by
  refine ⟨fun s => zrem_not_mem, rfl, rfl, rfl, ?_⟩
  have : (ackTx r k).hashes.find? (·.1 == (k.prio, k.short)) = none := by simp [ackTx]
  rw [getHash, this]
  rfl

/-- nack: dead-lettered (list of its priority), no longer held -/
theorem redis_nack_dead_letters (r : R) (k : Key) :
    (nackTx r k).dead = (k.prio, k.short) :: r.dead ∧ (nackTx r k).normal = r.normal ∧
    (nackTx r k).delayed = r.delayed ∧ (∀ s, (k.short, s) ∉ (nackTx r k).processing) := by
  simp [nackTx, markDead, unmark_lists]

/-- `redis_reject_origin`: reject returns the message to the category it was taken from (FULL clause — unlike the
    in-memory broker, finding F1): taken from the dead letters → dead letters; otherwise → by its due time to the
    delayed set or, without one, to the consuming end of the normal list; in every case it is no longer held -/
theorem redis_reject_origin (r : R) (k : Key) (p : Params) (rejectTo : Option Marker) (now : Int)
    (cronNext : String → Int → Int) :
    (rejectTo = some .dead → (rejectTx r k p rejectTo now cronNext).dead = (k.prio, k.short) :: r.dead ∧
        (rejectTx r k p rejectTo now cronNext).normal = r.normal ∧ (rejectTx r k p rejectTo now cronNext).delayed = r.delayed) ∧
    (rejectTo ≠ some .dead → waitScore p now cronNext = none →
        (rejectTx r k p rejectTo now cronNext).normal = r.normal ++ [(k.prio, k.short)] ∧
        (rejectTx r k p rejectTo now cronNext).dead = r.dead ∧ (rejectTx r k p rejectTo now cronNext).delayed = r.delayed) ∧
    (rejectTo ≠ some .dead → ∀ s, waitScore p now cronNext = some s →
        (rejectTx r k p rejectTo now cronNext).delayed = zadd r.delayed (k.prio, k.short) s ∧
        (rejectTx r k p rejectTo now cronNext).normal = r.normal ∧ (rejectTx r k p rejectTo now cronNext).dead = r.dead) ∧
    (∀ s, (k.short, s) ∉ (rejectTx r k p rejectTo now cronNext).processing) := by
  refine ⟨fun h => ?_, fun h hs => ?_, fun h s hs => ?_, fun s => ?_⟩
  · simp [rejectTx, h, markDead, unmark_lists]
  · simp [rejectTx, h, hs, put, unmark_lists]
  · simp [rejectTx, h, hs, put, unmark_lists]
  · fun_cases rejectTx <;> exact (unmark_lists _ k).2.2.2 s

/-- requeue is ONE transaction (there is no intermediate state in which the message is in no place — unlike the
    in-memory broker, finding F2): afterwards the message waits again (normal list or delayed set) and is not held -/
theorem redis_requeue_atomic (r : R) (k : Key) (payload : String) (p : Params) (now : Int) (cronNext : String → Int → Int) :
    (∀ s, (k.short, s) ∉ (requeueTx r k payload p now cronNext).processing) ∧
    (waitScore p now cronNext = none → (requeueTx r k payload p now cronNext).normal = r.normal ++ [(k.prio, k.short)]) ∧
    (∀ s, waitScore p now cronNext = some s → (requeueTx r k payload p now cronNext).delayed = zadd r.delayed (k.prio, k.short) s) := by
  simp +contextual [requeueTx, put, unmark_lists]

/-! ### C12 — expired messages are never delivered; dead letters stay retrievable -/

/-- `redis_no_expired_delivery`: whatever the state, the priority order and the category (other than DEAD), the
    message a consume pass returns is not overdue -/
theorem redis_no_expired_delivery (cat : Marker) (topics : List String) (now : Int) (hcat : cat ≠ .dead) :
    ∀ (order : List Nat) (r r' : R) (d : Delivery),
      consumeOrNone cat topics now order r = (r', some d) → d.params.isOverdue now = false := by
  intro order r r' d h
  fun_induction consumeOrNone
  case case1 => cases h
  -- nothing at this priority, or an overdue message (nacked): on to the next priority
  case case2 ih | case3 ih => exact ih h
  case case4 hover => cases h; simpa [hcat] using hover

/-- an expired message met by a consume pass is dead-lettered in the list of its own priority -/
theorem nack_dead_letters_own_priority (r : R) (k : Key) : (k.prio, k.short) ∈ (nackTx r k).dead := by
  rw [(redis_nack_dead_letters r k).1]
  exact List.mem_cons_self

/-- `dead_letters_retrievable`: a consumer of the DEAD category returns what it takes, overdue or not -/
theorem dead_letters_retrievable (topics : List String) (now : Int) (p : Nat) (rest : List Nat) (r r1 : R) (d : Delivery)
    (h : getMessage .dead topics (secs now) (r.normal.length + r.delayed.length + r.dead.length + 1) r p = (r1, some d)) :
    consumeOrNone .dead topics now (p :: rest) r = (r1, some d) := by
  simp [consumeOrNone, h]

/-! ### C03 — crash recovery by maintenance -/

/-- one held message, seen by maintenance: it is rejected (returned to where it was taken from) iff its execution
    timeout has elapsed since the second in which it was taken; otherwise it stays held -/
theorem maintenance_single (k : Key) (h : Hash) (p : Params) (start now : Int) (cronNext : String → Int → Int)
    (hp : h.params = some p) (hk : k.short.splitOn ":" = [k.topic, k.id]) :
    let r : R := { processing := [(k.short, start)], hashes := [((k.prio, k.short), h)] }
    maintenance r now cronNext =
      if now - start * usPerSec > p.executionTimeout then reject r k now cronNext else r := by
  simp only [maintenance, List.foldl_cons, List.foldl_nil, List.filter_cons, beq_self_eq_true, if_true, List.filter_nil, hp, hk]

/-- "and not before": while the timeout has not elapsed (counted from the second of the take) nothing changes -/
theorem maintenance_not_before (k : Key) (h : Hash) (p : Params) (start now : Int) (cronNext : String → Int → Int)
    (hp : h.params = some p) (hk : k.short.splitOn ":" = [k.topic, k.id])
    (hnot : now - start * usPerSec ≤ p.executionTimeout) :
    maintenance { processing := [(k.short, start)], hashes := [((k.prio, k.short), h)] } now cronNext =
      { processing := [(k.short, start)], hashes := [((k.prio, k.short), h)] } :=
  (maintenance_single k h p start now cronNext hp hk).trans (if_neg (Int.not_lt.mpr hnot))

/-- recorded finding F24: a consumer that is stopped right after its take transaction (before it has queued the message
    locally) leaves the message in `processing` only — no list holds it and the client has forgotten it; by
    `maintenance_not_before` it is not returned before its execution timeout has elapsed -/
theorem redis_cancelled_fetch_witness :
    let r0 : R := { normal := [(5, "t:a")], hashes := [((5, "t:a"), { payload := some "{}", params := some {} })] }
    let r1 := takeTx r0 .n 5 "t:a" 0
    r1.normal = [] ∧ r1.delayed = [] ∧ r1.dead = [] ∧ r1.processing = [("t:a", 0)] := by decide

end Repid.RedisProofs
