/-
C03 / C10 on the Redis broker: what a stopping worker gives back.
Model: RepidModel/Worker/StopRedis.lean over RepidModel/Broker/Redis.lean.
-/
import RepidModel.Worker.StopRedis
import RepidProofs.Props.RedisConservation

namespace Repid.StopRedisProofs
open Redis RedisProofs StopRedis

/-- rejecting a list of held messages one after the other: the "at most one place" invariant is kept and every message of
    the list, as well as every other message, is in exactly as many places as before (a reject moves, never drops or
    duplicates) -/
theorem rejectAll_places (cron : String → Int → Int) (now : Int) : ∀ (ks : List Key) (r : R), Inv r →
    (∀ k ∈ ks, sP r k.short = 1) → (ks.map (·.short)).Nodup →
    Inv (rejectAll r ks now cron) ∧ ∀ sh, places (rejectAll r ks now cron) sh = places r sh := by
  intro ks
  induction ks with
  | nil => intro r h _ _; exact ⟨h, fun _ => rfl⟩
  | cons k rest ih =>
    intro r hinv hheld hnd
    have hk : sP r k.short = 1 := hheld k List.mem_cons_self
    rw [List.map_cons, List.nodup_cons] at hnd
    have hrest : ∀ k' ∈ rest, sP (reject r k now cron) k'.short = 1 := by
      intro k' hk'
      have hne : k'.short ≠ k.short := fun e => hnd.1 (e ▸ List.mem_map_of_mem hk')
      rw [sP_reject_other r k now cron hne]
      exact hheld k' (List.mem_cons_of_mem k hk')
    obtain ⟨hinvF, hplF⟩ := ih _ (inv_step cron r (.reject k now) hinv hk) hrest hnd.2
    refine ⟨hinvF, fun sh => (hplF sh).trans ?_⟩
    rw [step_places cron r (.reject k now) hinv hk]
    split
    · subst sh; rw [Op.short, places_eq, hinv.not_waiting hk, hk]; rfl
    · rfl

/-- `stop_conserves`: whatever the worker holds when it stops — a message in hand, running executions, a prefetched
    local queue of any length — the stop sequence loses and duplicates nothing: every message is in exactly as many
    places as before, and at most one -/
theorem stop_conserves (w : W) (now : Int) (cron : String → Int → Int) (hinv : Inv w.r)
    (hheld : ∀ k ∈ w.givenBack, sP w.r k.short = 1) (hnd : (w.givenBack.map (·.short)).Nodup) :
    Inv (stop w now cron) ∧ ∀ sh, places (stop w now cron) sh = places w.r sh :=
  rejectAll_places cron now w.givenBack w.r hinv hheld hnd

/-- one held message (data and take marker present, as after every take): rejected, it is no longer marked in-flight -/
theorem reject_clears_in_flight (r : R) (k : Key) (p : Params) (m : Marker) (now : Int) (cron : String → Int → Int)
    (hp : (getHash r (k.prio, k.short)).params = some p) (hm : (getHash r (k.prio, k.short)).rejectTo = some m) :
    sP (reject r k now cron) k.short = 0 := by
  simp only [reject, hp, hm]
  fun_cases rejectTx <;> rw [sP_unmark, if_pos rfl]

/-- recorded finding F24: the message the fetch loop had just taken is not among those given back — after the stop it is
    still marked in-flight, in no queue -/
theorem stop_leaves_fetching_in_flight_witness :
    let h : Hash := { payload := some "{}", params := some {}, rejectTo := some .n }
    let w : W := { r := { processing := [("t:a", 0), ("t:b", 0)], hashes := [((5, "t:a"), h), ((5, "t:b"), h)] },
                   fetching := some ⟨5, "t", "a"⟩, loc := [⟨5, "t", "b"⟩] }
    (stop w 0 (fun _ t => t)).processing = [("t:a", 0)] ∧ (stop w 0 (fun _ t => t)).normal = [(5, "t:b")] := by decide

end Repid.StopRedisProofs
