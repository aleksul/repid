/-
C20 — the health endpoint tells the truth and cannot be knocked over.
Model: RepidModel/Health/Server.lean.
-/
import RepidModel.Health.Server

namespace Repid.C20
open Health

theorem splitFirst_cons_ne {c x : Char} (s l : List Char) (h : x ≠ c) :
    splitFirst (c :: s) (x :: l) = (splitFirst (c :: s) l).map fun (a, b) => (x :: a, b) := by
  rw [splitFirst, List.isPrefixOf, beq_false_of_ne h.symm]
  cases splitFirst (c :: s) l <;> rfl

theorem splitFirst_none (c : Char) (s l : List Char) (h : c ∉ l) : splitFirst (c :: s) l = none := by
  induction l with
  | nil => rfl
  | cons x l ih =>
    rw [List.mem_cons, not_or] at h
    rw [splitFirst_cons_ne s l (Ne.symm h.1), ih h.2]; rfl

/-- The hypothesis speaks of the separator's first character only: the request line meets it for the line and the word
    separator alike, and no notion of one text not occurring in another is needed. -/
theorem splitFirst_sep (c : Char) (s pre post : List Char) (h : c ∉ pre) :
    splitFirst (c :: s) (pre ++ (c :: s ++ post)) = some (pre, post) := by
  induction pre with
  | nil => simp [splitFirst]
  | cons x pre ih =>
    rw [List.mem_cons, not_or] at h
    rw [List.cons_append, splitFirst_cons_ne s _ (Ne.symm h.1), ih h.2]; rfl

theorem splitFirst_single (c : Char) (pre post : List Char) (h : c ∉ pre) :
    splitFirst [c] (pre ++ c :: post) = some (pre, post) :=
  splitFirst_sep c [] pre post h

theorem splitFirst_crlf (pre post : List Char) (h : '\r' ∉ pre) :
    splitFirst crlf (pre ++ crlf ++ post) = some (pre, post) := by
  rw [List.append_assoc]; exact splitFirst_sep _ _ pre post h

theorem splitFirst_crlf_none (pre : List Char) (h : '\r' ∉ pre) : splitFirst crlf pre = none :=
  splitFirst_none _ _ pre h

theorem firstLine_append {l rest : List Char} (h : '\r' ∉ l) (hrest : rest = [] ∨ ∃ r, rest = crlf ++ r) :
    firstLine (l ++ rest) = l := by
  unfold firstLine
  obtain rfl | ⟨r, rfl⟩ := hrest
  · rw [List.append_nil, splitFirst_crlf_none l h]
  · rw [← List.append_assoc, splitFirst_crlf l r h]

theorem parse_request_line {m p v rest body head msg : List Char}
    (hsplit : splitFirst crlf2 msg = some (head, body))
    (hhead : head = m ++ ' ' :: (p ++ ' ' :: v) ++ rest)
    (hrest : rest = [] ∨ ∃ r, rest = crlf ++ r)
    (hm : ' ' ∉ m) (hp : ' ' ∉ p) (hr : '\r' ∉ m ∧ '\r' ∉ p ∧ '\r' ∉ v) :
    parse msg = some (m, p) := by
  have hline : '\r' ∉ m ++ ' ' :: (p ++ ' ' :: v) := by
    simp only [List.mem_append, List.mem_cons, not_or]
    exact ⟨hr.1, by decide, hr.2.1, by decide, hr.2.2⟩
  simp only [parse, hsplit, hhead, firstLine_append hline hrest, splitFirst_single _ _ _ hm,
    splitFirst_single _ _ _ hp]

/-- `get_endpoint_reports_status`: EVERY request whose head (the text before the first blank line) starts with the
    line `GET <endpoint> <version>` — whatever the version text, whatever header lines follow, whatever the body —
    is answered with the current status. -/
theorem get_endpoint_reports_status (endpoint version rest body head msg : List Char) (st : Status)
    (hsplit : splitFirst crlf2 msg = some (head, body))
    (hhead : head = "GET".toList ++ ' ' :: (endpoint ++ ' ' :: version) ++ rest)
    (hrest : rest = [] ∨ ∃ r, rest = crlf ++ r)
    (he : ' ' ∉ endpoint ∧ '\r' ∉ endpoint) (hv : '\r' ∉ version) :
    handle endpoint st msg = some st.content := by
  have hget : ' ' ∉ "GET".toList ∧ '\r' ∉ "GET".toList := by rw [String.toList_ofList]; decide
  rw [handle, parse_request_line hsplit hhead hrest hget.1 he.1 ⟨hget.2, he.2, hv⟩]
  exact congrArg some (if_pos ⟨rfl, rfl⟩)

/-- any other method or path that can be read from the request is answered 404 -/
theorem other_request_404 (endpoint msg m p : List Char) (st : Status) (hp : parse msg = some (m, p))
    (hne : ¬ (m = "GET".toList ∧ p = endpoint)) : handle endpoint st msg = some notFound := by
  rw [handle, hp]
  exact congrArg some (if_neg hne)

/-- whatever text arrives, the connection is either dropped without a response or answered with one of exactly
    three contents; the handler has no other effect (it is a function of the text, the endpoint and the status) -/
theorem handle_total (endpoint msg : List Char) (st : Status) :
    handle endpoint st msg = none ∨ handle endpoint st msg = some st.content ∨
    handle endpoint st msg = some notFound := by
  rw [handle]
  cases parse msg with
  | none => exact .inl rfl
  | some mp =>
    by_cases h : mp.1 = "GET".toList ∧ mp.2 = endpoint
    · exact .inr (.inl (congrArg some (if_pos h)))
    · exact .inr (.inr (congrArg some (if_neg h)))

/-- a chunk without a blank line (a truncated request, or the first fragment of a request split across packets)
    is dropped without a response — the behaviour recorded as known finding F17 -/
theorem no_blank_line_dropped (endpoint msg : List Char) (st : Status) (h : splitFirst crlf2 msg = none) :
    handle endpoint st msg = none := by
  rw [handle, parse, h]; rfl

/-! ### the server cannot be knocked over: traffic never changes its state -/

theorem traffic_preserves_state (s : Srv) (e : Ev) (h : (∃ t, e = .request t) ∨ e = .garbage) :
    (step s e).1 = s := by
  rcases h with ⟨t, rfl⟩ | rfl <;> rfl

/-- the last start/stop among the events, if any -/
def lastSwitch : List Ev → Option Bool
  | [] => none
  | .start :: rest => (lastSwitch rest).orElse fun _ => some true
  | .stop :: rest => (lastSwitch rest).orElse fun _ => some false
  | _ :: rest => lastSwitch rest

theorem run_state (s : Srv) (evs : List Ev) :
    (run s evs).1 = { s with serving := (lastSwitch evs).getD s.serving,
                             status := if Ev.consumerFailed ∈ evs then .unhealthy else s.status } := by
  induction evs generalizing s with
  | nil => rfl
  | cons e rest ih =>
    show (run (step s e).1 rest).1 = _
    rw [ih]
    cases e <;> simp [step, lastSwitch]

/-- `status_iff_failed`: after ANY sequence of events — any amount of traffic, any bytes, starts and stops — the
    server reports UNHEALTHY iff a consumer has failed (or it already did before) -/
theorem status_iff_failed (s : Srv) (evs : List Ev) :
    (run s evs).1.status = .unhealthy ↔ (s.status = .unhealthy ∨ Ev.consumerFailed ∈ evs) := by
  rw [run_state]
  by_cases h : Ev.consumerFailed ∈ evs <;> simp [h]

/-- `serving_iff_running`: the port is open exactly between a start and the next stop, whatever traffic arrives -/
theorem serving_iff_running (s : Srv) (evs : List Ev) :
    (run s evs).1.serving = ((lastSwitch evs).getD s.serving) := by
  rw [run_state]

theorem endpoint_constant (s : Srv) (evs : List Ev) : (run s evs).1.endpoint = s.endpoint := by
  rw [run_state]

theorem run_append_last (s : Srv) (evs : List Ev) (e : Ev) :
    (run s (evs ++ [e])).2 = (run s evs).2 ++ [(step (run s evs).1 e).2] := by
  induction evs generalizing s with
  | nil => rfl
  | cons x rest ih => exact congrArg (_ :: ·) (ih _)

theorem request_after (s : Srv) (evs : List Ev) (msg : List Char) :
    (step (run s evs).1 (.request msg)).2 =
      if (lastSwitch evs).getD s.serving then
        match handle s.endpoint (if Ev.consumerFailed ∈ evs then .unhealthy else s.status) msg with
        | some c => .answered c
        | none => .dropped
      else .refused := by
  rw [run_state]
  cases (lastSwitch evs).getD s.serving <;> rfl

/-- `truthful`: after any history, a GET on the endpoint that reaches a serving server is answered 503 iff a consumer
    has failed in that history and 200 otherwise; when not serving, the connection is refused. -/
theorem truthful (endpoint version body head msg : List Char) (evs : List Ev)
    (hsplit : splitFirst crlf2 msg = some (head, body))
    (hhead : head = "GET".toList ++ ' ' :: (endpoint ++ ' ' :: version))
    (he : ' ' ∉ endpoint ∧ '\r' ∉ endpoint) (hv : '\r' ∉ version) :
    (step (run { endpoint := endpoint } evs).1 (.request msg)).2 =
      if (lastSwitch evs).getD false then
        .answered (if Ev.consumerFailed ∈ evs then Status.unhealthy.content else Status.ok.content)
      else .refused := by
  rw [request_after, get_endpoint_reports_status endpoint version [] body head msg _ hsplit
    (by rw [hhead, List.append_nil]) (.inl rfl) he hv, apply_ite Status.content]

/-! ### non-vacuity -/

/- `rfl` alone would evaluate `toList` on each input literal by decoding its UTF-8 bytes, several times the work of the
   parse itself; a literal is `String.ofList` of its characters, so `String.toList_ofList` yields them outright.  The
   expected text needs no such step: it meets the model's own literal unevaluated. -/
example : handle "/healthz".toList .ok "GET /healthz HTTP/1.1\r\nHost: x\r\n\r\n".toList = some "200 OK".toList := by
  conv => lhs; repeat rw [String.toList_ofList]
  rfl
example : handle "/healthz".toList .unhealthy "GET /healthz HTTP/1.1\r\n\r\n".toList = some "503 UNHEALTHY".toList := by
  conv => lhs; repeat rw [String.toList_ofList]
  rfl
example : handle "/healthz".toList .ok "POST /healthz HTTP/1.1\r\n\r\n".toList = some "404 Not Found".toList := by
  conv => lhs; repeat rw [String.toList_ofList]
  rfl
example : handle "/healthz".toList .ok "GET /hea".toList = none := by
  conv => lhs; repeat rw [String.toList_ofList]
  rfl
example : handle "/healthz".toList .ok "GET /healthz\r\n\r\n".toList = none := by
  conv => lhs; repeat rw [String.toList_ofList]
  rfl
example : (run { endpoint := "/h".toList } [.start, .request "GET /h x\r\n\r\n".toList, .consumerFailed, .garbage,
    .request "GET /h x\r\n\r\n".toList, .stop, .request "GET /h x\r\n\r\n".toList]).2
    = [.none, .answered "200 OK".toList, .none, .dropped, .answered "503 UNHEALTHY".toList, .none, .refused] := by
  conv => lhs; repeat rw [String.toList_ofList]
  rfl

end Repid.C20
