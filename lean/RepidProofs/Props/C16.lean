/-
C16 — Message handles are single-use and respect their category.
Model: `Worker.Handle` (message.py) and `Worker.DepState` (message_dependency.py).
-/
import RepidProofs.Proofs.Processor

namespace Repid.C16
open Worker

def isOk {ε α : Type} : Except ε α → Bool
  | .ok _ => true
  | .error _ => false

/-- a used handle refuses every action (and makes no broker call) -/
theorem used_handle_refuses (h : Handle) (p : Params) (now : Int) (cron : String → Int → Int)
    (dflt : Int) (a : Api) (hro : h.readOnly = true) :
    ∃ r, h.call p now cron dflt a = .error r := by
  cases hc : h.call p now cron dflt a with
  | error r => exact ⟨r, rfl⟩
  | ok bh => exact absurd (call_ok hc).1 (by simp [hro])

theorem used_handle_all_refused (h : Handle) (p : Params) (now : Int) (cron : String → Int → Int)
    (dflt : Int) (seq : List Api) (hro : h.readOnly = true) :
    ∀ x ∈ h.calls p now cron dflt seq, isOk x = false := by
  -- the branches of `Handle.calls`: no call left; the first call is accepted (`hc`); it is refused
  fun_induction Handle.calls
  case case1 => exact fun _ h => nomatch h
  case case2 hc _ => exact absurd (call_ok hc).1 (by simp [hro])
  case case3 ih => exact List.forall_mem_cons.mpr ⟨rfl, ih hro⟩

/-- an accepted action marks the handle as used -/
theorem accepted_marks_used (h h' : Handle) (p : Params) (now : Int) (cron : String → Int → Int)
    (dflt : Int) (a : Api) (b : BCall) (hc : h.call p now cron dflt a = .ok (b, h')) :
    h'.readOnly = true :=
  (call_ok hc).2 ▸ rfl

/-- `at_most_one_broker_call`: for EVERY sequence of message-API calls on a handle of any category
    and any retry state, at most one call reaches the broker; every call after it is refused. -/
theorem at_most_one_broker_call (h : Handle) (p : Params) (now : Int) (cron : String → Int → Int)
    (dflt : Int) (seq : List Api) :
    ((h.calls p now cron dflt seq).filter isOk).length ≤ 1 := by
  fun_induction Handle.calls
  case case1 => exact Nat.zero_le 1
  case case2 h a rest b h' hc _ =>
    have hall := used_handle_all_refused h' p now cron dflt rest
      (accepted_marks_used h h' p now cron dflt a b hc)
    have : (h'.calls p now cron dflt rest).filter isOk = [] :=
      List.filter_eq_nil_iff.mpr fun x hx => by simp [hall x hx]
    simp [List.filter_cons, isOk, this]
  case case3 ih => simpa [isOk] using ih

/-- nack, retry and force-retry are refused for messages taken from the delayed or dead category -/
theorem category_refusals (h : Handle) (p : Params) (now : Int) (cron : String → Int → Int)
    (dflt : Int) (n : Option Int) (hcat : h.category ≠ .normal) :
    h.call p now cron dflt .nack = .error .category ∧
    h.call p now cron dflt (.retry n) = .error .category ∧
    h.call p now cron dflt (.forceRetry n) = .error .category := by
  simp [Handle.call, hcat]

/-- retry is refused once the budget is spent — and leaves the handle usable: a following ack (or
    any other accepted action) still goes through; force-retry is not subject to the budget. -/
theorem retry_budget_refusal_keeps_handle (p : Params) (now : Int) (cron : String → Int → Int)
    (dflt : Int) (n : Option Int) (hspent : p.retries.alreadyTried ≥ p.retries.maxAmount) :
    ({} : Handle).calls p now cron dflt [.retry n, .ack] = [.error .budget, .ok .ack] ∧
    ({} : Handle).calls p now cron dflt [.retry n, .forceRetry n] =
      [.error .budget, .ok (.requeue (p.prepareRetry now (n.getD dflt)))] := by
  simp [Handle.calls, Handle.call, hspent]

/-- refused calls never change the handle: dropping them from a sequence changes nothing else -/
theorem refusals_keep_handle (h : Handle) (p : Params) (now : Int) (cron : String → Int → Int)
    (dflt : Int) (a : Api) (rest : List Api) (r : Refusal) (hr : h.call p now cron dflt a = .error r) :
    h.calls p now cron dflt (a :: rest) = .error r :: h.calls p now cron dflt rest := by
  simp [Handle.calls, hr]

/-- user callbacks in registration order (same function as `Pred.C16.users`) -/
def userCbs : List Pre → List Cb
  | [] => []
  | .addCallback i r :: rest => .user i r :: userCbs rest
  | _ :: rest => userCbs rest

theorem userCbs_eq_users (pre : List Pre) : userCbs pre = Pred.C16.users pre := by
  fun_induction userCbs <;> simp [Pred.C16.users, *]

def isUser : Cb → Bool
  | .user _ _ => true
  | .store _ => false

theorem foldPre_callbacks (hrp hb : Bool) (pre : List Pre) (d d' : DepState)
    (h : foldPre d hrp hb pre = .ok d') : d'.callbacks = d.callbacks ++ userCbs pre :=
  userCbs_eq_users pre ▸ (foldPre_ok h).1

theorem userCbs_isUser (pre : List Pre) : ∀ c ∈ userCbs pre, isUser c = true := by
  fun_induction userCbs
  case case1 => exact fun _ h => nomatch h
  case case2 ih => exact List.forall_mem_cons.mpr ⟨rfl, ih⟩
  case case3 ih => exact ih

/-- `callback_order`: the callbacks run in registration order; the result store is one extra entry
    placed among them (its position is fixed by the latest set_result / set_exception call). -/
theorem callback_order (hrp hb : Bool) (pre : List Pre) (d : DepState)
    (h : foldPre {} hrp hb pre = .ok d) :
    d.finalCallbacks.filter isUser = userCbs pre ∧
    (d.finalCallbacks.filter (fun c => !isUser c)).length ≤ 1 := by
  have hc : d.callbacks = userCbs pre := by simpa using foldPre_callbacks hrp hb pre {} d h
  -- every sublist of the user callbacks passes the one filter whole and the other not at all
  have hu (l : List Cb) (hl : ∀ c ∈ l, c ∈ userCbs pre) :
      l.filter isUser = l ∧ l.filter (fun c => !isUser c) = [] :=
    ⟨List.filter_eq_self.mpr fun c hc => userCbs_isUser pre c (hl c hc),
     List.filter_eq_nil_iff.mpr fun c hc => by simp [userCbs_isUser pre c (hl c hc)]⟩
  rw [DepState.finalCallbacks, hc]
  cases d.lazy with
  | none => simp [hu _ fun _ h => h]
  | some is =>
    have hs : isUser (.store is.2) = false := rfl
    simp [hu _ fun _ => List.mem_of_mem_take, hu _ fun _ => List.mem_of_mem_drop, hs]

/-- the store takes the place recorded by the LATEST set_result/set_exception call: callbacks
    registered before it run before the store, later ones after it -/
theorem store_position (d : DepState) (i : Nat) (s : Bool) (hl : d.lazy = some (i, s)) :
    d.finalCallbacks = d.callbacks.take i ++ [.store s] ++ d.callbacks.drop i := by
  simp [DepState.finalCallbacks, hl]

open Pred.C16

/-- state after folding the declarations: the callback list grows by the user callbacks, the lazy
    store position is the callback count at the moment of the LAST set_* call -/
theorem foldPre_state (hrp hb : Bool) (pre : List Pre) (d d' : DepState)
    (h : foldPre d hrp hb pre = .ok d') :
    d'.callbacks = d.callbacks ++ users pre ∧
    d'.lazy = (match lastSet pre with
               | none => d.lazy
               | some (i, s) => some (d.callbacks.length + (users (pre.take i)).length, s)) := by
  obtain ⟨h1, h2, -, -⟩ := foldPre_ok h
  refine ⟨h1, h2.trans ?_⟩
  cases lastSet pre <;> rfl

theorem users_append (a b : List Pre) : users (a ++ b) = users a ++ users b := by
  fun_induction users a <;> simp [users, *]

/-- the element at the position reported by `lastSet` is a set_* call -/
theorem lastSet_spec (pre : List Pre) (i : Nat) (s : Bool) (h : lastSet pre = some (i, s)) :
    ∃ x, pre[i]? = some x ∧ isSet x = some s := by
  fun_induction lastSet generalizing i
  case case1 => cases h
  case case2 hl ih => cases h; exact ih _ hl
  case case3 =>
    simp only [Option.map_eq_some_iff] at h
    obtain ⟨_, hy, rfl, rfl⟩ := h
    exact ⟨_, rfl, hy⟩

/-- **`callback_order`, full statement**: after any sequence of set_result / set_exception /
    add_callback calls, the callbacks executed after the eager response are exactly the SPEC order:
    the registered callbacks in registration order, with the result store in the place of the latest
    set_result / set_exception call. -/
theorem final_eq_spec (hrp hb : Bool) (pre : List Pre) (d : DepState)
    (h : foldPre {} hrp hb pre = .ok d) : d.finalCallbacks = specOrder pre := by
  obtain ⟨h1, h2, -, -⟩ := foldPre_ok h
  rw [DepState.finalCallbacks, specOrder, h2, h1]
  cases hl : lastSet pre with
  | none => rfl
  | some is =>
    -- `pre = take i pre ++ x :: drop (i+1) pre` with `x` a set_* call, which registers no callback
    obtain ⟨i, s⟩ := is
    obtain ⟨x, hx, hxs⟩ := lastSet_spec pre i s hl
    obtain ⟨hi, rfl⟩ := List.getElem?_eq_some_iff.mp hx
    have hu : users pre = users (pre.take i) ++ users (pre.drop (i + 1)) := by
      conv => lhs; rw [← List.take_append_drop i pre, users_append, List.drop_eq_getElem_cons hi,
        users_cons, users_of_isSet hxs, List.nil_append]
    simp only [Option.map_some, Option.or, List.length_nil, Nat.zero_add, List.nil_append, hu,
      List.take_left, List.drop_left]

/-- `body_stops`: an accepted eager response ends the actor run with "reporting done" — the rest of
    the body does not run and the worker makes no further broker call. -/
theorem body_stops (p : Params) (now : Int) (cron : String → Int → Int) (pn : Int) (hb : Bool)
    (a : Api) (b : BCall) (h' : Handle) (hc : ({} : Handle).call p now cron pn a = .ok (b, h')) :
    (actorRun p now cron pn hb false (.eager [] a)).reportingDone = true ∧
    (actorRun p now cron pn hb false (.eager [] a)).calls = [b] := by
  rw [actorRun_eager_ok p now cron pn hb false (pre := []) rfl hc]
  exact ⟨rfl, rfl⟩

-- Non-vacuity / concrete sequence: [nack (refused: dead category), reject, ack].
example : ({ category := .dead } : Handle).calls {} 0 (fun _ n => n) 0 [.nack, .reject, .ack] =
    [.error .category, .ok .reject, .error .readOnly] := by
  simp [Handle.calls, Handle.call]

end Repid.C16
