/-
C15 — Within a queue and priority, delivery is first-in first-out (in-memory broker, one consumer).

`view topics q` = the waiting messages this consumer wants, in queue order.  Every atom either
leaves the view alone, removes its head (delivery, or expiry of that head), or appends to its end.
-/
import RepidProofs.Proofs.MemStep

namespace Repid.C15
open Mem

def view (topics : List String) (q : Q) : List Msg := q.simple.filter (wants topics)

/-- One normal poll by the consumer with topic set `topics`:
    it delivers exactly the head of the view, or expires the queue head (dropping it from the view
    if it was in it), or rotates a foreign head (view unchanged). -/
theorem pollNormal_view (q : Q) (now : Int) (topics : List String) :
    let r := pollNormal q now topics
    (∃ m rest, view topics q = m :: rest ∧ r.1 = some m ∧ view topics r.2 = rest) ∨
    (r.1 = none ∧ view topics r.2 = view topics q) ∨
    (∃ m rest, view topics q = m :: rest ∧ r.1 = none ∧ view topics r.2 = rest ∧
        m.params.isOverdue now = true) := by
  dsimp only [view]
  -- the branches of `pollNormal`: nothing waiting, head overdue, head of a foreign topic, head delivered
  fun_cases pollNormal with
  | case1 => exact .inr (.inl ⟨rfl, rfl⟩)
  | case2 x xs hs ho =>
    cases hw : wants topics x
    · exact .inr (.inl ⟨rfl, by rw [hs, List.filter_cons_of_neg (by simp [hw])]⟩)
    · exact .inr (.inr ⟨x, _, by rw [hs, List.filter_cons_of_pos hw], rfl, rfl, ho⟩)
  | case3 x xs hs _ hw => exact .inr (.inl ⟨rfl, by simp [hs, Bool.not_eq_eq_eq_not.mp hw]⟩)
  | case4 x xs hs _ hw => exact .inl ⟨x, _, by rw [hs, List.filter_cons_of_pos (by simpa using hw)], rfl, rfl⟩

/-- `mem_fifo`: a delivered message is the OLDEST waiting message the consumer wants — nothing that
    entered the view later can overtake it. -/
theorem mem_fifo (q : Q) (now : Int) (topics : List String) (m : Msg)
    (h : (pollNormal q now topics).1 = some m) : (view topics q).head? = some m := by
  rcases pollNormal_view q now topics with ⟨m', rest, hv, hr, _⟩ | ⟨hr, _⟩ | ⟨m', rest, _, hr, _⟩
  · rw [hr] at h; injection h with h; subst h; simp [hv]
  · rw [hr] at h; cases h
  · rw [hr] at h; cases h

/-- every other atom only ever appends to the consumer's view (enqueue, reject, finish, the move of
    due delayed messages) or leaves it alone — relative order of waiting messages never changes. -/
theorem other_atoms_append (cron : String → Int → Int) (q : Q) (op : Op) (topics : List String)
    (hop : ∀ c now tp, op ≠ .poll c .normal now tp) :
    ∃ new, view topics (step cron q op) = view topics q ++ new := by
  suffices q.simple <+: (step cron q op).simple from
    (this.filter (wants topics)).elim fun new h => ⟨new, h.symm⟩
  cases op with
  | poll c cat now tp =>
    obtain ⟨p, b, h⟩ := pollTake_frame q c cat now tp
    rw [step, h]
    fun_cases poll
    · exact absurd rfl (hop c now tp)
    · fun_cases pollDelayed <;> exact List.prefix_rfl
    · fun_cases pollDead <;> exact List.prefix_rfl
  | update now => exact List.prefix_append ..
  | put _ _ | reput _ _ | ack _ | nack _ | reject _ | unhold _ | finish _ _ =>
    -- one branch point each; on either side `simple` is left alone or appended to
    simp only [step, put, reputA, ackA, nackA, rejectA, unholdA, finishA]
    split <;> simp only [List.prefix_append, List.prefix_rfl]

/-- `mem_return_before_later`: a rejected message is back in the view before anything enqueued
    after the reject (it is appended at the moment of the reject; later arrivals go behind it). -/
theorem mem_return_before_later (cron : String → Int → Int) (q : Q) (i : String) (h : Held) (x : Msg)
    (now : Int) (topics : List String) (hheld : findHeld q i = some h) (hw : wants topics h.msg = true)
    (himm : x.params.waitUntil now cron = none) (hwx : wants topics x = true) :
    view topics (put (rejectA q i) x now cron) = view topics q ++ [h.msg, { x with due := none }] := by
  have hwx' : wants topics { x with due := none } = true := by simpa [wants] using hwx
  simp [put, himm, rejectA, hheld, view, hw, hwx']

-- Non-vacuity: a two-message queue with a foreign head.
example :
    let a : Msg := { id := "a", topic := "tb" }
    let b : Msg := { id := "b", topic := "ta" }
    let q : Q := { simple := [a, b] }
    view ["ta"] q = [b] ∧ (pollNormal q 0 ["ta"]).1 = none ∧
    (pollNormal (pollNormal q 0 ["ta"]).2 0 ["ta"]).1 = some b := by decide

end Repid.C15
